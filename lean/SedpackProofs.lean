import SedpackProofs.Replay
import SedpackProofs.Lists
import SedpackProofs.Hash
import SedpackProofs.Filler
import SedpackProofs.PoolThm
import SedpackProofs.Pipe
import SedpackProofs.TreeInstall
import SedpackProofs.TreeSession
import SedpackProofs.TreeCheck
import SedpackProofs.TreeInterleave
import SedpackProofs.Crash
import SedpackProofs.Select
import SedpackProofs.Path
import SedpackProofs.ParMap
import SedpackProofs.Codec
import SedpackProofs.PoolReuse
import SedpackProofs.Writer
import SedpackProofs.ParMapTerm
import SedpackProofs.TreeEnum
import SedpackProofs.TreeCrash
import SedpackProofs.TreeCrashRefine
import SedpackProofs.HashConc
import SedpackProofs.Par
import SedpackProofs.Reg
