import SedpackModel.Codec
/-! M-CODEC: `encodeLE k` / `decodeLE` are inverse, C order (`ravel` / `unravel`) is a bijection, two's complement
recovers every in-range integer. -/
namespace Sedpack.Codec

theorem encodeLE_length : ∀ k v, (encodeLE k v).length = k
  | 0, _ => rfl
  | k+1, _ => congrArg (· + 1) (encodeLE_length k _)

theorem encodeLE_lt : ∀ k v, ∀ b ∈ encodeLE k v, b < 256
  | 0, _ => nofun
  | k+1, _ => List.forall_mem_cons.2 ⟨Nat.mod_lt _ (by decide), encodeLE_lt k _⟩

theorem decode_encode (k v : Nat) (h : v < 256 ^ k) : decodeLE (encodeLE k v) = v := by
  induction k generalizing v with
  | zero => rw [Nat.pow_zero, Nat.lt_one_iff] at h; rw [h]; rfl
  | succ k ih =>
    rw [encodeLE, decodeLE, ih _ (Nat.div_lt_of_lt_mul (Nat.pow_succ' ▸ h))]
    exact Nat.mod_add_div v 256

/-- With `encode_decode`, the direction C01 does not need (every stored byte string is some value's encoding). -/
theorem decodeLE_lt : ∀ bs : List Nat, (∀ b ∈ bs, b < 256) → decodeLE bs < 256 ^ bs.length
  | [], _ => Nat.one_pos
  | b :: bs, h => by
    obtain ⟨hb, ht⟩ := List.forall_mem_cons.1 h
    have ih := decodeLE_lt bs ht
    rw [decodeLE, List.length_cons, Nat.pow_succ]
    omega

theorem encode_decode : ∀ bs : List Nat, (∀ b ∈ bs, b < 256) → encodeLE bs.length (decodeLE bs) = bs
  | [], _ => rfl
  | b :: bs, h => by
    obtain ⟨hb, ht⟩ := List.forall_mem_cons.1 h
    rw [decodeLE, List.length_cons, encodeLE, Nat.add_mul_mod_self_left, Nat.add_mul_div_left _ _ (by decide),
      Nat.mod_eq_of_lt hb, Nat.div_eq_of_lt hb, Nat.zero_add, encode_decode bs ht]

theorem ravel_eq_iff : ∀ (shape idx : List Nat) (n : Nat),
    InBounds shape idx ∧ ravel shape idx = n ↔ n < size shape ∧ unravel shape n = idx
  | [], [], n => by simp [InBounds, ravel, size, unravel, eq_comm]
  | [], _ :: _, n => by simp [InBounds, unravel]
  | _ :: _, [], n => by simp [InBounds, unravel]
  | d :: ds, i :: is, n => by
    rw [InBounds, ravel, size, unravel, List.cons.injEq]
    constructor
    · rintro ⟨⟨hi, hb⟩, rfl⟩
      obtain ⟨hlt, hun⟩ := (ravel_eq_iff ds is _).1 ⟨hb, rfl⟩
      refine ⟨?_, ?_, ?_⟩
      · calc i * size ds + ravel ds is < i * size ds + size ds := Nat.add_lt_add_left hlt _
          _ = (i + 1) * size ds := (Nat.succ_mul _ _).symm
          _ ≤ d * size ds := Nat.mul_le_mul_right _ hi
      · rw [Nat.add_comm, Nat.add_mul_div_right _ _ (Nat.zero_lt_of_lt hlt), Nat.div_eq_of_lt hlt, Nat.zero_add]
      · rw [Nat.add_comm, Nat.add_mul_mod_self_right, Nat.mod_eq_of_lt hlt, hun]
    · rintro ⟨hn, rfl, rfl⟩
      have hpos := Nat.pos_of_lt_mul_left hn
      obtain ⟨hb, hr⟩ := (ravel_eq_iff ds _ _).2 ⟨Nat.mod_lt n hpos, rfl⟩
      exact ⟨⟨(Nat.div_lt_iff_lt_mul hpos).2 hn, hb⟩, by rw [hr]; exact Nat.div_add_mod' n (size ds)⟩

theorem indices_length (shape : List Nat) : (indices shape).length = size shape := by simp [indices]

theorem indices_get (shape idx : List Nat) (h : InBounds shape idx) :
    (indices shape)[ravel shape idx]? = some idx := by
  obtain ⟨hlt, hun⟩ := (ravel_eq_iff shape idx _).1 ⟨h, rfl⟩
  simp [indices, hlt, hun]

theorem flattenC_length (shape : List Nat) (elem : List Nat → Nat) : (flattenC shape elem).length = size shape := by
  simp [flattenC, indices_length]

theorem wrap_signed (P v : Int) (hlo : -P ≤ v) (hhi : v < P) :
    (if v % (P * 2) ≥ P then v % (P * 2) - P * 2 else v % (P * 2)) = v := by
  by_cases hv : v < 0
  · -- negative: the residue is `v + P * 2`, at least `P`
    rw [← Int.add_emod_right, Int.emod_eq_of_lt (by omega) (by omega), if_pos (by omega), Int.add_sub_cancel]
  · -- non-negative: the residue is `v`, below `P`
    rw [Int.emod_eq_of_lt (Int.not_lt.1 hv) (by omega), if_neg (Int.not_le.2 hhi)]

theorem pattern_roundtrip (k : IntKind) (hb : 0 < k.bits) (v : Int) (h : k.holds v) :
    ofPattern k (toPattern k v) = v := by
  obtain ⟨hlo, hhi⟩ := h
  unfold IntKind.lo at hlo
  unfold IntKind.hi at hhi
  unfold ofPattern toPattern
  -- write the modulus `2 ^ k.bits` as `P * 2`
  rw [← Nat.two_pow_pred_mul_two hb] at hhi ⊢
  have hP : 0 < 2 ^ (k.bits - 1) := Nat.two_pow_pos _
  generalize 2 ^ (k.bits - 1) = P at *
  generalize k.signed = sg at *
  cases sg
  · -- unsigned: the residue is the value
    simp only [Bool.false_eq_true, if_false, false_and] at *
    rw [Int.emod_eq_of_lt hlo (Int.lt_of_le_sub_one hhi), Int.toNat_of_nonneg hlo]
  · -- signed: the residue is non-negative, so the test `toNat r ≥ P` is the test `r ≥ P` on integers; then `wrap_signed`
    simp only [if_true, true_and] at *
    have hr := Int.toNat_of_nonneg (Int.emod_nonneg v (b := ↑(P * 2)) (by omega))
    simp only [ge_iff_le, ← Int.ofNat_le, hr]
    rw [Int.natCast_mul]
    exact wrap_signed P v hlo (Int.lt_of_le_sub_one hhi)

theorem toPattern_lt (k : IntKind) (v : Int) : toPattern k v < 2 ^ k.bits := by
  have hpos : (0 : Int) < (2 ^ k.bits : Nat) := Int.natCast_pos.2 (Nat.two_pow_pos _)
  exact (Int.toNat_lt (Int.emod_nonneg v (Int.ne_of_gt hpos))).2 (Int.emod_lt_of_pos v hpos)

theorem rangeIncl_holds (src dst : IntKind) (h : rangeIncl src dst = true) (v : Int) (hv : src.holds v) : dst.holds v :=
  have ⟨h1, h2⟩ := of_decide_eq_true h
  ⟨Int.le_trans h1 hv.1, Int.le_trans hv.2 h2⟩

theorem groups_flatMap (k : Nat) (f : Nat → List Nat) (hf : ∀ x, (f x).length = k) (l : List Nat) :
    groups k l.length (l.flatMap f) = l.map f := by
  induction l with
  | nil => rfl
  | cons x xs ih =>
    rw [List.length_cons, List.flatMap_cons, groups, List.take_left' (hf x), List.drop_left' (hf x), ih, List.map_cons]

end Sedpack.Codec
