import SedpackModel.Crash
import SedpackProofs.Replay
/-! Crash-consistency invariants of M-CRASH, for every reachable state (= every crash point). -/
namespace Sedpack.Crash

theorem sub_iff {α} [DecidableEq α] {a b : List α} : sub a b = true ↔ ∀ x ∈ a, x ∈ b := by
  simp only [sub, List.all_eq_true, List.contains_iff_mem]

structure Inv (s : St) : Prop where
  /-- closed: completely written and hashed -/
  listedClosed : ∀ d doc, s.docs d = some doc → ∀ f ∈ doc.files, f ∈ s.closed
  /-- children first -/
  kidsInstalled : ∀ d doc, s.docs d = some doc → ∀ c ∈ doc.kids, (s.docs c).isSome = true
  /-- lists before the description -/
  rootsInstalled : ∀ r ∈ s.roots, (s.docs r).isSome = true
  closedNotOpen : ∀ f ∈ s.closed, f ∉ s.opened
  openNodup : s.opened.Nodup

inductive Reach (s0 : St) : St → Prop
  | init : Reach s0 s0
  | step {s s' l} : Reach s0 s → step s l = some s' → Reach s0 s'

/-- `step` as a relation: per label, the guard read as hypotheses and the successor written out -/
inductive Step (s : St) : Lbl → St → Prop
  | shardBegin {f} : f ∉ s.closed → f ∉ s.opened → Step s (.shardBegin f) { s with opened := f :: s.opened }
  | shardAppend {f} : f ∈ s.opened → Step s (.shardAppend f) s
  | shardClose {f} : f ∈ s.opened → Step s (.shardClose f) { s with opened := s.opened.erase f, closed := f :: s.closed }
  | tmpWrite {d} : Step s (.tmpWrite d) { s with tmps := s.tmps + 1 }
  | install {d doc} (hfiles : ∀ f ∈ doc.files, f ∈ s.closed) (hkids : ∀ c ∈ doc.kids, (s.docs c).isSome)
      (holdf : ∀ f ∈ ((s.docs d).getD ⟨[], []⟩).files, f ∈ doc.files)
      (holdk : ∀ c ∈ ((s.docs d).getD ⟨[], []⟩).kids, c ∈ doc.kids) (hdepth : ∀ c ∈ doc.kids, c.length = d.length + 1) :
      Step s (.install d doc) { s with docs := fun x => if x = d then some doc else s.docs x }
  | installInfo {roots} (hroots : ∀ r ∈ roots, (s.docs r).isSome) (hold : ∀ r ∈ s.roots, r ∈ roots) :
      Step s (.installInfo roots) { s with roots := roots }

theorem step_sound {s s' : St} {l : Lbl} (h : step s l = some s') : Step s l s' := by
  -- every guarded case of `step` is an `if` with `none` on one side up to unfolding, so the hypothesis goes to
  -- `Option.ite_none_left_eq_some` / `Option.ite_none_right_eq_some` as it stands
  cases l with
  | shardBegin =>
    obtain ⟨hf, ⟨⟩⟩ := Option.ite_none_left_eq_some.mp h
    exact .shardBegin (fun h => hf (.inl h)) (fun h => hf (.inr h))
  | shardAppend => obtain ⟨hf, ⟨⟩⟩ := Option.ite_none_right_eq_some.mp h; exact .shardAppend hf
  | shardClose => obtain ⟨hf, ⟨⟩⟩ := Option.ite_none_right_eq_some.mp h; exact .shardClose hf
  | tmpWrite => cases h; exact .tmpWrite
  | install =>
    obtain ⟨hg, ⟨⟩⟩ := Option.ite_none_right_eq_some.mp h
    simp only [List.all_eq_true, List.contains_iff_mem, sub_iff, decide_eq_true_eq] at hg
    obtain ⟨hfiles, hkids, holdf, holdk, hdepth⟩ := hg
    exact .install hfiles hkids holdf holdk hdepth
  | installInfo =>
    obtain ⟨hg, ⟨⟩⟩ := Option.ite_none_right_eq_some.mp h
    simp only [List.all_eq_true, sub_iff] at hg
    obtain ⟨hroots, hold⟩ := hg
    exact .installInfo hroots hold

theorem Step.complete {s s' : St} {l : Lbl} (h : Step s l s') : step s l = some s' := by
  cases h with
  | shardBegin hc ho => exact if_neg (fun h => h.elim hc ho)
  | shardAppend hf | shardClose hf => exact if_pos hf
  | tmpWrite => rfl
  | install hfiles hkids holdf holdk hdepth =>
    refine if_pos ?_
    simp only [List.all_eq_true, List.contains_iff_mem, sub_iff, decide_eq_true_eq]
    exact ⟨hfiles, hkids, holdf, holdk, hdepth⟩
  | installInfo hroots hold => refine if_pos ?_; simp only [List.all_eq_true, sub_iff]; exact ⟨hroots, hold⟩

theorem inv_step {s s' : St} {l : Lbl} (hi : Inv s) (hs : step s l = some s') : Inv s' := by
  cases step_sound hs with
  | shardBegin hc ho =>
    exact { hi with
      closedNotOpen := fun g hg hm => (List.mem_cons.mp hm).elim (fun e => hc (e ▸ hg)) (hi.closedNotOpen g hg)
      openNodup := List.nodup_cons.mpr ⟨ho, hi.openNodup⟩ }
  | shardAppend => exact hi
  | @shardClose f hf =>
    exact { hi with
      listedClosed := fun d doc hd g hg => List.mem_cons_of_mem _ (hi.listedClosed d doc hd g hg)
      closedNotOpen := fun g hg hm =>
        have hme := hi.openNodup.mem_erase_iff.mp hm
        (List.mem_cons.mp hg).elim hme.1 fun h => hi.closedNotOpen g h hme.2
      openNodup := hi.openNodup.erase f }
  | tmpWrite => exact { hi with }
  | @install d doc hfiles hkids =>
    -- a property of every installed document survives if the new document has it; installed documents stay installed
    have all {P : Doc → Prop} (h : ∀ x dx, s.docs x = some dx → P dx) (h0 : P doc) :
        ∀ x dx, (if x = d then some doc else s.docs x) = some dx → P dx := by
      intro x dx hx; split at hx
      · cases hx; exact h0
      · exact h x dx hx
    have keep c (h : (s.docs c).isSome = true) : (if c = d then some doc else s.docs c).isSome = true := by
      split
      · rfl
      · exact h
    exact { hi with
      listedClosed := all hi.listedClosed hfiles
      kidsInstalled := fun x dx hx c hc => keep c (all hi.kidsInstalled hkids x dx hx c hc)
      rootsInstalled := fun r hr => keep r (hi.rootsInstalled r hr) }
  | installInfo hroots => exact { hi with rootsInstalled := hroots }

theorem Reach.keeps {P : St → Prop} (hP : ∀ {s l s'}, P s → Crash.step s l = some s' → P s') {s0 s : St}
    (h : Reach s0 s) (h0 : P s0) : P s := by
  induction h with
  | init => exact h0
  | step _ hs ih => exact hP ih hs

theorem inv_reach {s0 s : St} (h0 : Inv s0) (h : Reach s0 s) : Inv s := h.keeps inv_step h0

theorem reachFrom_closed {s : St} (hi : Inv s) {d : Dir} {f : Nat} (h : ReachFrom s d f) : f ∈ s.closed := by
  induction h with
  | direct hd hf => exact hi.listedClosed _ _ hd _ hf
  | viaKid _ _ _ ih => exact ih

/-- `s'` shows a reader everything `s` showed -/
structure Le (s s' : St) : Prop where
  closed : ∀ f ∈ s.closed, f ∈ s'.closed
  docs : ∀ d doc, s.docs d = some doc →
    ∃ doc', s'.docs d = some doc' ∧ (∀ f ∈ doc.files, f ∈ doc'.files) ∧ ∀ c ∈ doc.kids, c ∈ doc'.kids
  roots : ∀ r ∈ s.roots, r ∈ s'.roots

theorem Le.of_docs_eq {s s' : St} (hc : ∀ f ∈ s.closed, f ∈ s'.closed) (hd : s'.docs = s.docs)
    (hr : ∀ r ∈ s.roots, r ∈ s'.roots) : Le s s' :=
  ⟨hc, fun _ doc h => ⟨doc, hd ▸ h, fun _ h => h, fun _ h => h⟩, hr⟩

theorem step_le {s s' : St} {l : Lbl} (hs : step s l = some s') : Le s s' := by
  cases step_sound hs with
  | shardBegin | shardAppend | tmpWrite => exact .of_docs_eq (fun _ h => h) rfl (fun _ h => h)
  | shardClose => exact .of_docs_eq (fun _ h => List.mem_cons_of_mem _ h) rfl (fun _ h => h)
  | installInfo _ hold => exact .of_docs_eq (fun _ h => h) rfl hold
  | @install d doc _ _ holdf holdk =>
    refine ⟨fun _ h => h, fun x dx hx => ?_, fun _ h => h⟩
    by_cases hxd : x = d
    · subst hxd; rw [hx] at holdf holdk; exact ⟨doc, if_pos rfl, holdf, holdk⟩
    · exact ⟨dx, (if_neg hxd).trans hx, fun _ h => h, fun _ h => h⟩

theorem Le.reachFrom {s s' : St} (hle : Le s s') {d : Dir} {f : Nat} (h : ReachFrom s d f) : ReachFrom s' d f := by
  induction h with
  | direct hd hf => obtain ⟨_, hd', hf', _⟩ := hle.docs _ _ hd; exact .direct hd' (hf' _ hf)
  | viaKid hd hc _ ih => obtain ⟨_, hd', _, hc'⟩ := hle.docs _ _ hd; exact .viaKid hd' (hc' _ hc) ih

theorem Le.reachable {s s' : St} (hle : Le s s') {f : Nat} : Reachable s f → Reachable s' f
  | ⟨r, hr, hrf⟩ => ⟨r, hle.roots r hr, hle.reachFrom hrf⟩

theorem replays : Replays step accepts := ⟨fun _ => rfl, fun _ _ _ => rfl⟩

theorem accepts_reach (s0 : St) {tr : List Lbl} {s s' : St} : Reach s0 s → accepts s tr = some s' → Reach s0 s' :=
  replays.keeps .step

end Sedpack.Crash
