import SedpackModel.Filler
/-! Invariant of a filler session.  With the repaired statement order one `write_example` is `rollOver` (close the open
shard when it is full or the metadata changes) followed, for an accepted example, by `store`; `Inv eps ss log` says that the
closed shards and the open one are well formed and together hold `log`, the accepted writes so far, in order. -/
namespace Sedpack.Fill

/-- the repaired statement order: metadata attached after the write -/
def fixed (eps : Nat) : Cfg := { eps := eps, attachFirst := false }

/-- the code's roll-over test: `written_examples >= examples_per_shard or metadata_changed` -/
def Roll (eps : Nat) (cur : Prog) (md : Nat) : Prop :=
  eps ≤ cur.written ∨ (md ≠ 0 ∧ cur.shard.md ≠ 0 ∧ md ≠ cur.shard.md)

instance (eps cur md) : Decidable (Roll eps cur md) := by unfold Roll; infer_instance

/-- the record `close_shard` appends for the open shard -/
def Prog.close (p : Prog) (why : Why) : Closed := { md := p.shard.md, n := p.shard.n, exs := p.shard.exs, why := why }

/-- the reason recorded when `write_example` closes the open shard -/
def Prog.rollWhy (eps : Nat) (p : Prog) : Why := if eps ≤ p.written then .full else .mdChange

theorem Prog.rollWhy_ne_exit {eps : Nat} {p : Prog} : p.rollWhy eps ≠ .exit := by
  unfold Prog.rollWhy; split <;> nofun

theorem Prog.rollWhy_full {eps : Nat} {p : Prog} (h : p.rollWhy eps = .full) : eps ≤ p.written :=
  Decidable.byContradiction fun hn => nomatch (if_neg hn).symm.trans h

theorem Prog.rollWhy_mdChange {eps : Nat} {p : Prog} (h : p.rollWhy eps = .mdChange) : ¬ eps ≤ p.written :=
  fun hle => nomatch (if_pos hle).symm.trans h

/-- first half of `write_example`; the `else` branch is its get-or-create of the progress entry -/
def rollOver (eps : Nat) (ss : SplitSt) (md : Nat) : SplitSt :=
  if Roll eps (ss.prog.getD {}) md then
    { prog := some {}, closed := ss.closed ++ [(ss.prog.getD {}).close ((ss.prog.getD {}).rollWhy eps)] }
  else { ss with prog := some (ss.prog.getD {}) }

/-- second half, for an example the writer accepts: attach the metadata, store, count -/
def Prog.put (p : Prog) (md ex : Nat) : Prog :=
  { shard := { md := if md = 0 then p.shard.md else md, n := p.shard.n + 1, exs := p.shard.exs ++ [(ex, md)] },
    written := p.written + 1 }

def store (ss : SplitSt) (md ex : Nat) : SplitSt := { ss with prog := some ((ss.prog.getD {}).put md ex) }

theorem write_roll_fail (eps) (ss : SplitSt) (md ex ok) (h : Roll eps (ss.prog.getD {}) md)
    (he : (ss.prog.getD {}).shard.exs = []) :
    writeSplit { eps := eps, attachFirst := false } ss md ex ok
      = ({ ss with prog := some (ss.prog.getD {}) }, .closeFailed) := by
  unfold Roll at h
  simp [writeSplit, closeShard, he, h]

/-- the hypothesis excludes a roll-over that would close a shard holding nothing (`write_roll_fail`).  These two lemmas alone
unfold `writeSplit`. -/
theorem writeSplit_eq {eps} {ss : SplitSt} {md ex ok}
    (h : Roll eps (ss.prog.getD {}) md → (ss.prog.getD {}).shard.exs ≠ []) :
    writeSplit (fixed eps) ss md ex ok =
      (if ok then store (rollOver eps ss md) md ex else rollOver eps ss md, if ok then .ok else .rejected) := by
  -- the model's `attach` chooses between two shard records; `Prog.put` chooses the field
  have hat : ∀ sh : Open, (if md = 0 then sh else { sh with md := md }) = { sh with md := if md = 0 then sh.md else md } :=
    fun sh => by split <;> simp [*]
  unfold rollOver store
  by_cases hr : Roll eps (ss.prog.getD {}) md
  · have he := h hr
    rw [if_pos hr]
    unfold Roll at hr
    cases ok <;> simp [writeSplit, closeShard, fixed, hr, he, Prog.close, Prog.put, Prog.rollWhy, hat]
  · rw [if_neg hr]
    unfold Roll at hr
    cases ok <;> simp [writeSplit, fixed, hr, Prog.put, hat]

/-- a shard closed by a `write_example` of the session (never by `__exit__`) -/
structure ClosedOK (eps : Nat) (c : Closed) : Prop where
  pos : 1 ≤ c.n
  le : c.n ≤ eps
  len : c.n = c.exs.length
  lab : ∀ q ∈ c.exs, q.2 ≠ 0 → q.2 = c.md
  full : c.why = .full → c.n = eps
  notExit : c.why ≠ .exit

/-- the open shard.  `md0`: a shard that holds nothing is not labelled yet, so the filler never rolls over from an empty
shard (`roll_pos`); the pinned order labels before the write and loses this (D4). -/
structure ProgOK (eps : Nat) (p : Prog) : Prop where
  len : p.written = p.shard.exs.length
  n : p.shard.n = p.written
  le : p.written ≤ eps
  md0 : p.written = 0 → p.shard.md = 0
  lab : ∀ q ∈ p.shard.exs, q.2 ≠ 0 → q.2 = p.shard.md

def openExs (ss : SplitSt) : List (Nat × Nat) := (ss.prog.getD {}).shard.exs

structure Inv (eps : Nat) (ss : SplitSt) (log : List (Nat × Nat)) : Prop where
  closed : ∀ c ∈ ss.closed, ClosedOK eps c
  prog : ProgOK eps (ss.prog.getD {})
  cons : ss.closed.flatMap (·.exs) ++ openExs ss = log

/-- what every listed shard satisfies once the session is closed -/
structure ListedOK (eps : Nat) (c : Closed) : Prop where
  pos : 1 ≤ c.n
  le : c.n ≤ eps
  len : c.n = c.exs.length
  lab : ∀ q ∈ c.exs, q.2 ≠ 0 → q.2 = c.md
  full : c.why = .full → c.n = eps

theorem ClosedOK.listed {eps c} (h : ClosedOK eps c) : ListedOK eps c :=
  ⟨h.pos, h.le, h.len, h.lab, h.full⟩

theorem ClosedOK.full_or_mdChange {eps c} (h : ClosedOK eps c) : (c.why = .full ∧ c.n = eps) ∨ c.why = .mdChange := by
  cases hw : c.why with
  | full => exact .inl ⟨rfl, h.full hw⟩
  | mdChange => exact .inr rfl
  | exit => exact absurd hw h.notExit

theorem progOK_default (eps : Nat) : ProgOK eps {} := by
  constructor <;> simp

theorem inv_init (eps : Nat) : Inv eps {} [] :=
  ⟨by simp, progOK_default eps, rfl⟩

variable {eps : Nat} {p : Prog} {ss : SplitSt} {log : List (Nat × Nat)} {md : Nat}

theorem roll_pos (heps : 1 ≤ eps) (hp : ProgOK eps p) (h : Roll eps p md) : 0 < p.written :=
  h.elim (Nat.le_trans heps) fun h => Nat.pos_of_ne_zero fun h0 => h.2.1 (hp.md0 h0)

theorem not_roll_default (heps : 1 ≤ eps) : ¬ Roll eps {} md :=
  fun h => Nat.lt_irrefl 0 (roll_pos heps (progOK_default eps) h)

theorem ProgOK.exs_ne (hp : ProgOK eps p) (h : 0 < p.written) : p.shard.exs ≠ [] :=
  fun he => absurd (hp.len ▸ h) (by simp [he])

theorem ProgOK.close (hp : ProgOK eps p) (h : 0 < p.written) {why : Why} (hf : why = .full → eps ≤ p.written) :
    ListedOK eps (p.close why) where
  pos := (hp.n.symm ▸ h : 0 < p.shard.n)
  le := (hp.n.symm ▸ hp.le : p.shard.n ≤ eps)
  len := hp.n.trans hp.len
  lab := hp.lab
  full := fun hw => hp.n.trans (Nat.le_antisymm hp.le (hf hw))

theorem rollOver_settled (heps : 1 ≤ eps) : ¬ Roll eps ((rollOver eps ss md).prog.getD {}) md := by
  unfold rollOver
  split
  · exact not_roll_default heps
  · assumption

theorem rollOver_inv (heps : 1 ≤ eps) (md : Nat) (hi : Inv eps ss log) : Inv eps (rollOver eps ss md) log := by
  unfold rollOver
  split
  · rename_i hr
    have hnew : ClosedOK eps ((ss.prog.getD {}).close ((ss.prog.getD {}).rollWhy eps)) :=
      { hi.prog.close (roll_pos heps hi.prog hr) Prog.rollWhy_full with notExit := Prog.rollWhy_ne_exit }
    refine ⟨List.forall_mem_append.2 ⟨hi.closed, List.forall_mem_singleton.2 hnew⟩, progOK_default eps, ?_⟩
    rw [← hi.cons]; simp [openExs, Prog.close]
  · exact ⟨hi.closed, hi.prog, hi.cons⟩

theorem ProgOK.put (hp : ProgOK eps p) (ex : Nat) (h : ¬ Roll eps p md) : ProgOK eps (p.put md ex) := by
  refine { len := by simp [Prog.put, hp.len], n := congrArg (· + 1) hp.n, le := Nat.lt_of_not_le fun hle => h (.inl hle),
           md0 := nofun, lab := fun q hq hq0 => ?_ }
  show q.2 = if md = 0 then p.shard.md else md
  rcases List.mem_append.1 hq with hq | hq
  · have hlab := hp.lab q hq hq0
    split
    · exact hlab
    · -- an earlier example with non-empty metadata has the same value, else we rolled over
      rename_i hm
      exact Decidable.byContradiction fun hne =>
        h (.inr ⟨hm, fun h0 => hq0 (hlab.trans h0), fun e => hne (hlab.trans e.symm)⟩)
  · cases List.mem_singleton.1 hq
    exact (if_neg hq0).symm

theorem writeSplit_inv (heps : 1 ≤ eps) (md ex : Nat) (ok : Bool) (hi : Inv eps ss log) :
    Inv eps (writeSplit (fixed eps) ss md ex ok).1 (if ok then log ++ [(ex, md)] else log) ∧
    (writeSplit (fixed eps) ss md ex ok).2 = (if ok then .ok else .rejected) := by
  rw [writeSplit_eq fun hr => hi.prog.exs_ne (roll_pos heps hi.prog hr)]
  have hr := rollOver_inv heps md hi
  cases ok
  · exact ⟨hr, rfl⟩
  · exact ⟨⟨hr.closed, hr.prog.put ex (rollOver_settled heps), by rw [← hr.cons, List.append_assoc]; rfl⟩, rfl⟩

def accepted (ops : List Op) (sp : Nat) : List (Nat × Nat) :=
  ops.filterMap (fun | .write s md ex ok => if s = sp ∧ ok = true then some (ex, md) else none)

def outcome : Op → Out
  | .write _ _ _ ok => if ok then .ok else .rejected

theorem accepted_append (a b : List Op) (sp : Nat) : accepted (a ++ b) sp = accepted a sp ++ accepted b sp :=
  List.filterMap_append

theorem accepted_single (s md ex : Nat) (ok : Bool) (sp : Nat) :
    accepted [.write s md ex ok] sp = if s = sp ∧ ok = true then [(ex, md)] else [] := by
  by_cases h : s = sp ∧ ok = true <;> simp [accepted, h]

theorem step_fst (c : Cfg) (s : St) (sp md ex : Nat) (ok : Bool) (x : Nat) :
    (step c s (.write sp md ex ok)).1 x = if x = sp then (writeSplit c (s sp) md ex ok).1 else s x := rfl

/-- callers start at `St.init [] []`, where `[] ++ ops` is `ops` by reduction -/
theorem run_induct (c : Cfg) (P : St → List Op → List Out → Prop)
    (hstep : ∀ s done outs op, P s done outs → P (step c s op).1 (done ++ [op]) (outs ++ [(step c s op).2]))
    (ops : List Op) : ∀ s done outs, P s done outs → P (run c s ops).1 (done ++ ops) (outs ++ (run c s ops).2) := by
  induction ops with
  | nil => intro s done outs h; simpa [run] using h
  | cons op ops ih =>
    intro s done outs h
    have := ih _ _ _ (hstep s done outs op h)
    rwa [List.append_assoc, List.append_assoc] at this

theorem run_inv (heps : 1 ≤ eps) (ops : List Op) :
    (∀ sp, Inv eps ((run (fixed eps) St.init ops).1 sp) (accepted ops sp)) ∧
      (run (fixed eps) St.init ops).2 = ops.map outcome := by
  refine run_induct (fixed eps) (fun s done outs => (∀ sp, Inv eps (s sp) (accepted done sp)) ∧ outs = done.map outcome)
    ?_ ops St.init [] [] ⟨fun _ => inv_init eps, rfl⟩
  rintro s done outs ⟨sp0, md, ex, ok⟩ ⟨hi, ho⟩
  have hw := writeSplit_inv heps md ex ok (hi sp0)
  refine ⟨fun sp => ?_, by simp [ho, step, hw.2, outcome]⟩
  rw [step_fst, accepted_append]
  split
  · subst sp; cases ok <;> simpa [accepted_single] using hw.1
  · rename_i h; simpa [accepted_single, Ne.symm h] using hi sp

theorem exitSplit_eq (ss : SplitSt) : exitSplit ss =
    if 0 < (ss.prog.getD {}).written then
      (closeShard ss (ss.prog.getD {}).shard .exit).map (fun s => { s with prog := none })
    else some { ss with prog := none } := by
  obtain ⟨_ | p, cl⟩ := ss <;> rfl

/-- `cl.dropLast ⊆ ss.closed`: `__exit__` closes the open shard at most, so what is known of `ss.closed` (`Inv.closed`, C10's
`NoChange`) holds of every listed shard but the last -/
theorem exit_inv (hi : Inv eps ss log) :
    ∃ cl, (exitSplit ss).map (·.closed) = some cl ∧ (∀ c ∈ cl, ListedOK eps c) ∧
      cl.flatMap (·.exs) = log ∧ cl.dropLast ⊆ ss.closed := by
  have hp := hi.prog
  rw [exitSplit_eq]
  split
  · rename_i hw
    exact ⟨ss.closed ++ [(ss.prog.getD {}).close .exit], by rw [closeShard, if_neg (hp.exs_ne hw)]; rfl,
      List.forall_mem_append.2 ⟨fun c hc => (hi.closed c hc).listed, List.forall_mem_singleton.2 (hp.close hw (why := .exit) nofun)⟩,
      by simpa [Prog.close, openExs] using hi.cons, by simp⟩
  · rename_i hw
    have he : (ss.prog.getD {}).shard.exs = [] :=
      List.eq_nil_of_length_eq_zero (hp.len.symm.trans (Nat.eq_zero_of_not_pos hw))
    exact ⟨ss.closed, rfl, fun c hc => (hi.closed c hc).listed, by simpa [he, openExs] using hi.cons, List.dropLast_subset _⟩

end Sedpack.Fill
