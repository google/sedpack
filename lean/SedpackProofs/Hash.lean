import SedpackModel.Hash
/-! M-HASH: `readinto` returns between 1 and `B` bytes while data remain; hence the slices of `chunks` are non-empty, at most `B`
long, and concatenate to the file. -/
namespace Sedpack.Hash

theorem readinto_pos {B len pos want : Nat} (hB : 1 ≤ B) (h : pos < len) : 0 < readinto B len pos want :=
  Nat.lt_min.2 ⟨Nat.lt_min.2 ⟨Nat.le_max_left 1 want, hB⟩, Nat.sub_pos_of_lt h⟩

theorem readinto_le {B len pos want : Nat} : readinto B len pos want ≤ len - pos := Nat.min_le_right _ _

theorem readinto_le_B {B len pos want : Nat} : readinto B len pos want ≤ B :=
  Nat.le_trans (Nat.min_le_left _ _) (Nat.min_le_right _ _)

/-- the converse of `readinto_pos` (no proof here needs it) -/
theorem readinto_eof {B len pos want : Nat} (h : len ≤ pos) : readinto B len pos want = 0 :=
  Nat.le_zero.1 (Nat.sub_eq_zero_of_le h ▸ readinto_le)

variable (B : Nat) (content : List Byte) (want : Nat → Nat)

theorem chunks_flatten (hB : 1 ≤ B) (fuel k pos : Nat) (h : content.length - pos < fuel) :
    (chunks B content want fuel k pos).flatten = content.drop pos := by
  fun_induction chunks B content want fuel k pos with
  | case1 => nomatch h                  -- out of fuel
  | case2 fuel k pos i h0 =>
    -- 0 bytes read: we are at end of file
    exact (List.drop_eq_nil_of_le (Nat.not_lt.1 fun hl => Nat.ne_of_gt (readinto_pos hB hl) h0)).symm
  | case3 fuel k pos i hi ih =>
    have hi := Nat.pos_of_ne_zero hi
    have hle : i ≤ content.length - pos := readinto_le
    -- at least one byte was read, so less of the file remains than before
    have hlt := Nat.lt_of_lt_of_le (Nat.sub_lt (Nat.lt_of_lt_of_le hi hle) hi) (Nat.le_of_lt_succ h)
    rw [List.flatten_cons, ih (Nat.sub_add_eq .. ▸ hlt), ← List.drop_drop, List.take_append_drop]

theorem chunks_sizes (fuel k pos : Nat) : ∀ c ∈ chunks B content want fuel k pos, 0 < c.length ∧ c.length ≤ B := by
  fun_induction chunks B content want fuel k pos with
  | case1 => nofun                      -- out of fuel
  | case2 => nofun                      -- 0 bytes read
  | case3 fuel k pos i hi ih =>
    refine List.forall_mem_cons.2 ⟨?_, ih⟩
    rw [List.length_take, List.length_drop, Nat.min_eq_left readinto_le]
    exact ⟨Nat.pos_of_ne_zero hi, readinto_le_B⟩

theorem foldl_update {σ} (a : Algo σ)
    (law : ∀ s x y, a.update (a.update s x) y = a.update s (x ++ y))
    (nil : ∀ s, a.update s [] = s) (cs : List (List Byte)) (s : σ) : cs.foldl a.update s = a.update s cs.flatten := by
  induction cs generalizing s with
  | nil => exact (nil s).symm
  | cons c cs ih => rw [List.foldl_cons, ih, law, List.flatten_cons]

end Sedpack.Hash
