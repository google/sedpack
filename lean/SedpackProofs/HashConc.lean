import SedpackModel.HashConc
import SedpackProofs.Replay
import SedpackProofs.Lists
/-! Invariant of M-HASH-CONC with private buffers: for every call, fed ++ buffered ++ unread = the file. -/
namespace Sedpack.HashConc

theorem stepP_content {cs cs' : List Call} {l : Lbl} (h : stepP cs l = some cs') :
    cs'.map Call.content = cs.map Call.content := by
  revert h
  -- the disabled branches return `none`; the two enabled ones replace call `i` by one with the same content
  fun_cases stepP cs l <;> intro h <;> cases h
  case case1 i c hc ch rest ht hb => exact map_set_of_eq _ hc (by simp [Call.content, hb, ht])    -- `read i`
  case case4 i c hc ch hb => exact map_set_of_eq _ hc (by simp [Call.content, hb])                -- `feed i`

theorem runP_replays : Replays stepP runP := ⟨fun _ => rfl, fun _ _ _ => rfl⟩

theorem runP_content (ls : List Lbl) (cs cs' : List Call) (h : runP cs ls = some cs') :
    cs'.map Call.content = cs.map Call.content :=
  runP_replays.keeps (P := fun c => c.map Call.content = cs.map Call.content) (fun hp hs => (stepP_content hs).trans hp) rfl h

end Sedpack.HashConc
