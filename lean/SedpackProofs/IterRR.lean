import SedpackModel.Iter
import SedpackProofs.Replay
/-! Invariant of the round-robin monitor: the elements of the opened inner iterables are those yielded plus the unread
rests, at most `b` slots are open, and it cannot finish before the outer stream has ended. -/
namespace Sedpack.Iter

def restOf (o : List (Nat × List Nat)) : List Nat := o.flatMap (·.2)

theorem slot_perm {o : List (Nat × List Nat)} {id : Nat} {e : Nat × List Nat} (hnd : (o.map (·.1)).Nodup)
    (hf : o.find? (·.1 = id) = some e) : e.1 = id ∧ o.Perm (e :: o.filter (·.1 ≠ id)) := by
  obtain ⟨he, as, bs, rfl, has⟩ := List.find?_eq_some_iff_append.mp hf
  have he : e.1 = id := of_decide_eq_true he
  -- `o = as ++ e :: bs`: `find?` passed over `as`, and by `hnd` no slot of `bs` repeats the identifier of `e`
  rw [List.map_append, List.map_cons, List.nodup_append, List.nodup_cons] at hnd
  obtain ⟨-, ⟨hbs, -⟩, -⟩ := hnd
  rw [List.filter_append, List.filter_cons_of_neg (by simpa using he),
    List.filter_eq_self.mpr fun q hq => by simpa using has q hq,
    List.filter_eq_self.mpr fun q hq => by
      simpa using fun hqe => hbs (List.mem_map.mpr ⟨q, hq, hqe.trans he.symm⟩)]
  exact ⟨he, List.perm_middle⟩

/-- `id' = id` by `slot_perm` -/
theorem restOf_yield {o : List (Nat × List Nat)} {id id' y : Nat} {rest : List Nat} (hnd : (o.map (·.1)).Nodup)
    (hf : o.find? (·.1 = id) = some (id', y :: rest)) :
    (restOf o).Perm (y :: restOf (o.map (fun p => if p.1 = id then (id, rest) else p))) := by
  obtain ⟨he, h⟩ := slot_perm hnd hf
  have h2 := h.map (fun p => if p.1 = id then (id, rest) else p)
  -- the other slots are left as they are
  rw [List.map_cons, if_pos he, List.map_congr_left (l := o.filter _) (g := fun q => q) fun q hq =>
    if_neg (by simpa using (List.mem_filter.mp hq).2), List.map_id'] at h2
  exact (h.flatMap_right _).trans ((h2.flatMap_right Prod.snd).symm.cons y)

/-- `ids`: the open slots carry increasing identifiers below `opened` (so no identifier twice); `cnt`: every inner
iterable opened is still open or counted in `closed`; `cap`: a pending refill still owns its slot; `fillLt`: the initial
fill loop runs only while a slot is free, with no refill pending; `allOpened` needs `0 < b`: with `b = 0` the monitor may
finish without asking the outer stream; `fin`: once finished, nothing is open or pending -/
structure RRInv (b : Nat) (s : RR) : Prop where
  size : s.b = b
  ids : (s.open_.map (·.1)).Sublist (List.range s.opened)
  perm : s.pulledAll.Perm (s.out ++ restOf s.open_)
  cnt : s.opened = s.closed + s.open_.length
  cap : s.open_.length + s.refill.toNat ≤ b
  fillLt : s.filling = true → s.open_.length < b ∧ s.refill = false
  allOpened : 0 < b → s.filling = false → s.refill = false → s.open_ = [] → s.outerDone = true
  fin : s.finished = false ∨ s.filling = false ∧ s.refill = false ∧ s.open_ = []

theorem RRInv.nodup {b : Nat} {s : RR} (hi : RRInv b s) : (s.open_.map (·.1)).Nodup :=
  hi.ids.nodup List.nodup_range

theorem RRInv.done {b : Nat} {s : RR} (hi : RRInv b s) (hf : s.finished = true) :
    s.filling = false ∧ s.refill = false ∧ s.open_ = [] :=
  hi.fin.resolve_left fun h => nomatch h.symm.trans hf

theorem rr_inv_init (b : Nat) : RRInv b (RR.init b) where
  size := rfl
  ids := .slnil
  perm := .refl _
  cnt := rfl
  cap := Nat.zero_le _
  fillLt := fun h => ⟨of_decide_eq_true h, rfl⟩
  allOpened := fun hb h => absurd (decide_eq_true hb) (Bool.eq_false_iff.mp h)
  fin := .inl rfl

theorem rr_inv_step {b : Nat} {s s' : RR} {l : RRLbl} (hi : RRInv b s) (h : RR.step s l = some s') : RRInv b s' := by
  have hcap := hi.cap
  have hcnt := hi.cnt
  -- both `openInner` branches: the new slot takes the next identifier
  have key : ∀ id es f r, ¬ (s.finished = true ∨ id ≠ s.opened) → s.open_.length + 1 + r.toNat ≤ b →
      (f = true → s.open_.length + 1 < b ∧ r = false) →
      RRInv b { s with open_ := s.open_ ++ [(id, es)], opened := s.opened + 1,
                       pulledAll := s.pulledAll ++ es, filling := f, refill := r } := fun id es f r hc hc' hfl => by
    simp only [not_or, Bool.not_eq_true, Decidable.not_not] at hc
    obtain ⟨hfin, rfl⟩ := hc
    have hlen : (s.open_ ++ [(s.opened, es)]).length = s.open_.length + 1 := List.length_append
    exact { hi with
      ids := by rw [List.map_append, List.range_succ]; exact hi.ids.append (.refl _)
      perm := by simpa [restOf] using hi.perm.append_right es
      cnt := by rw [hlen, hcnt]; rfl
      cap := by rw [hlen]; exact hc'
      fillLt := by rw [hlen]; exact hfl
      allOpened := fun _ _ _ h => absurd h (List.append_ne_nil_of_right_ne_nil _ (List.cons_ne_nil _ _))
      fin := .inl hfin }
  revert h
  -- one case per branch of `RR.step`, numbered in the order of its text; those that return `none` go at once
  fun_cases RR.step s l <;> intro h <;> cases h
  case case2 id es hc hf =>  -- `openInner` while filling
    obtain ⟨hlt, hrf⟩ := hi.fillLt hf
    exact key _ _ _ _ hc (hrf ▸ hlt) fun h => ⟨hi.size ▸ of_decide_eq_true h, hrf⟩
  case case3 id es hc hf hrf =>  -- `openInner` as refill
    exact key _ _ _ _ hc (by rw [hrf] at hcap; exact hcap) fun h => absurd h hf
  case case6 hfin hf =>  -- `outerEnd` while filling
    exact { hi with fillLt := nofun, allOpened := fun _ _ _ _ => rfl, fin := .inl ((Bool.not_eq_true _).mp hfin) }
  case case7 hfin hf hrf =>  -- `outerEnd` as refill
    exact { hi with
      cap := Nat.le_trans (Nat.le_add_right _ _) hcap
      fillLt := fun h => absurd h hf
      allOpened := fun _ _ _ _ => rfl, fin := .inl ((Bool.not_eq_true _).mp hfin) }
  case case10 id hc id' y rest hfind =>  -- `yield id y`
    simp only [not_or, Bool.not_eq_true] at hc
    obtain ⟨hfin, hf, hrf⟩ := hc
    have hids : (s.open_.map (fun p => if p.1 = id then (id, rest) else p)).map (·.1) = s.open_.map (·.1) := by
      rw [List.map_map]; exact List.map_congr_left fun p _ => by simp only [Function.comp]; split <;> simp [*]
    exact { hi with
      ids := hids ▸ hi.ids
      perm := by rw [List.append_assoc]; exact hi.perm.trans ((restOf_yield hi.nodup hfind).append_left _)
      cnt := by rw [List.length_map]; exact hcnt
      cap := by rw [List.length_map]; exact hcap
      fillLt := fun h => nomatch hf.symm.trans h
      allOpened := fun hb h1 h2 h => hi.allOpened hb h1 h2 (List.map_eq_nil_iff.mp h)
      fin := .inl hfin }
  case case14 id hc id' hfind =>  -- `innerEnd id`
    simp only [not_or, Bool.not_eq_true] at hc
    obtain ⟨hfin, hf, hrf⟩ := hc
    -- the exhausted slot alone is removed, and it held nothing
    have h := (slot_perm hi.nodup hfind).2
    have hlen : (s.open_.filter (·.1 ≠ id)).length + 1 = s.open_.length := h.length_eq.symm
    rw [hrf, ← hlen] at hcap
    exact { hi with
      ids := (List.filter_sublist.map _).trans hi.ids
      perm := hi.perm.trans ((h.flatMap_right _).append_left _)
      cnt := by rw [hcnt, ← hlen]; exact (Nat.add_right_comm s.closed 1 _).symm
      cap := hcap
      fillLt := fun h => nomatch hf.symm.trans h
      allOpened := fun _ _ => nofun
      fin := .inl hfin }
  case case16 hc =>  -- `finish`
    simp only [Bool.not_eq_true] at hc
    exact { hi with fin := .inr ⟨hc.1, hc.2.1, hc.2.2.1⟩ }

inductive RRReach (b : Nat) : RR → Prop
  | init : RRReach b (RR.init b)
  | step {s s' l} : RRReach b s → RR.step s l = some s' → RRReach b s'

theorem rr_inv_reach {b : Nat} {s : RR} (h : RRReach b s) : RRInv b s := by
  induction h with
  | init => exact rr_inv_init b
  | step _ hs ih => exact rr_inv_step ih hs

theorem RR.replays : Replays RR.step RR.accepts := ⟨fun _ => rfl, fun _ _ _ => rfl⟩

theorem rr_accepts_reach {b : Nat} {tr : List RRLbl} {s : RR} (ha : RR.accepts (RR.init b) tr = some s) :
    RRReach b s :=
  RR.replays.keeps .step .init ha

end Sedpack.Iter
