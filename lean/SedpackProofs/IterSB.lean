import SedpackModel.Iter
import SedpackProofs.Replay
/-! Invariant of the shuffle-buffer monitor: what has been pulled is what has been yielded plus what is held, and how
full the buffer is in each phase. -/
namespace Sedpack.Iter

theorem replaceFirst_perm (x y : Nat) {l : List Nat} (h : x ∈ l) : (x :: replaceFirst x y l).Perm (y :: l) := by
  fun_induction replaceFirst x y l
  case case1 => cases h  -- the empty list
  case case2 => exact .swap ..  -- `x` is the head
  case case3 a as hne ih =>  -- `x` is further on: x :: a :: r ~ a :: x :: r ~ a :: y :: as ~ y :: a :: as
    exact (List.Perm.swap ..).trans (((ih ((List.mem_cons.mp h).resolve_left (Ne.symm hne))).cons a).trans (.swap ..))

theorem length_replaceFirst (x y : Nat) (l : List Nat) : (replaceFirst x y l).length = l.length := by
  fun_induction replaceFirst x y l <;> simp [*]

def pendL (s : SB) : List Nat := s.pend.toList

theorem pendL_length_le (s : SB) : (pendL s).length ≤ 1 := Option.length_toList_le

theorem pendL_of_none {s : SB} (h : s.pend = none) : pendL s = [] := congrArg Option.toList h

theorem pendL_of_some {s : SB} {y : Nat} (h : s.pend = some y) : pendL s = [y] := congrArg Option.toList h

/-- `failed` needs an empty buffer in the main loop, i.e. `b = 0` -/
def SBPhaseInv (b : Nat) (s : SB) : SBPhase → Prop
  | .fill => s.pend = none ∧ s.buf.length < b ∧ s.out = []
  | .main => s.buf.length = b
  | .flush => s.pend = none
  | .done => s.pend = none ∧ s.buf = []
  | .failed => b = 0

structure SBInv (b : Nat) (s : SB) : Prop where
  size : s.b = b
  perm : s.pulled.Perm (s.out ++ s.buf ++ pendL s)
  bufle : s.buf.length ≤ b
  ph : SBPhaseInv b s s.phase

theorem SBInv.inPhase {b : Nat} {s : SB} {p : SBPhase} (hi : SBInv b s) (hp : s.phase = p) : SBPhaseInv b s p :=
  hp ▸ hi.ph

theorem SBInv.main_empty {b : Nat} {s : SB} (hi : SBInv b s) (hm : s.phase = .main) (he : s.buf = []) : b = 0 :=
  (hi.inPhase hm).symm.trans (congrArg List.length he)

theorem sb_inv_init (b : Nat) : SBInv b (SB.init b) := by
  refine ⟨rfl, .refl _, Nat.zero_le _, ?_⟩
  unfold SB.init
  split
  · next h => exact h.symm
  · next h => exact ⟨rfl, Nat.pos_of_ne_zero h, rfl⟩

theorem sb_inv_step {b : Nat} {s s' : SB} {l : SBLbl} (hi : SBInv b s) (h : SB.step s l = some s') : SBInv b s' := by
  have hperm := hi.perm
  have hle := hi.bufle
  revert h
  -- one case per branch of `SB.step`, numbered in the order of its text; those that return `none` go at once
  fun_cases SB.step s l <;> intro h <;> cases h
  case case1 x hf =>  -- fill, `pull x`
    obtain ⟨hp, hlt, hout⟩ := hi.inPhase hf
    have hlen : (s.buf ++ [x]).length = s.buf.length + 1 := List.length_append
    refine { hi with perm := ?_, bufle := (hlen ▸ hlt : (s.buf ++ [x]).length ≤ b), ph := ?_ }
    · simpa [pendL, hp] using hperm.append_right [x]
    · simp only [hi.size]; split
      · next h => exact hlen.trans (Nat.le_antisymm hlt h)
      · next h => exact ⟨hp, hlen ▸ Nat.lt_of_not_le h, hout⟩
  case case3 x hm hp hb =>  -- main, `pull x` with an empty buffer: only if `b = 0`
    exact { hi with ph := hi.main_empty hm hb }
  case case4 x hm hp hb =>  -- main, `pull x`
    have hp : s.pend = none := by simpa using hp
    refine { hi with perm := ?_, ph := ?_ }
    · simpa [pendL, hp] using hperm.append_right [x]
    · rw [hm]; exact hi.inPhase hm
  case case6 hf =>  -- fill, source ends
    exact { hi with ph := (hi.inPhase hf).1 }
  case case8 hm hp =>  -- main, source ends
    exact { hi with ph := show s.pend = none by simpa using hp }
  case case9 =>  -- flush, source asked again
    exact hi
  case case11 x y hp hm hx =>  -- main, `yield x` with `y` in hand
    refine { hi with perm := hperm.trans ?_, bufle := ?_, ph := ?_ }
    · -- `buf ++ [y]` and `x :: replaceFirst x y buf` hold the same elements
      simpa [pendL, hp] using ((List.perm_append_singleton y s.buf).trans (replaceFirst_perm x y hx).symm).append_left s.out
    · simpa only [length_replaceFirst] using hle
    · rw [hm]; exact (length_replaceFirst ..).trans (hi.inPhase hm)
  case case13 x hp hf hx =>  -- flush, `yield x`
    refine { hi with perm := hperm.trans ?_, bufle := Nat.le_trans (List.length_erase_le ..) hle, ph := ?_ }
    · simpa [pendL, hp] using (List.perm_cons_erase hx).append_left s.out
    · rw [hf]; exact hp
  case case16 hc =>  -- `finish`
    exact { hi with ph := ⟨hi.inPhase hc.1, hc.2⟩ }

inductive SBReach (b : Nat) : SB → Prop
  | init : SBReach b (SB.init b)
  | step {s s' l} : SBReach b s → SB.step s l = some s' → SBReach b s'

theorem sb_inv_reach {b : Nat} {s : SB} (h : SBReach b s) : SBInv b s := by
  induction h with
  | init => exact sb_inv_init b
  | step _ hs ih => exact sb_inv_step ih hs

theorem SB.replays : Replays SB.step SB.accepts := ⟨fun _ => rfl, fun _ _ _ => rfl⟩

theorem sb_accepts_reach {b : Nat} {tr : List SBLbl} {s : SB} (ha : SB.accepts (SB.init b) tr = some s) :
    SBReach b s :=
  SB.replays.keeps .step .init ha

end Sedpack.Iter
