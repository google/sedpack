import SedpackModel.Par
import SedpackProofs.Replay
/-! Non-interference of components with private state: every interleaving projects to the solo runs. -/
namespace Sedpack.Par

variable {σ lbl : Type} (C : Comp σ lbl)

theorem runSolo_replays : Replays C.step (runSolo C) := ⟨fun _ => rfl, fun _ _ _ => rfl⟩

theorem stepPar_eq_some {cs cs' : List σ} {x : Nat × lbl} (h : stepPar C cs x = some cs') :
    ∃ c c', cs[x.1]? = some c ∧ C.step c x.2 = some c' ∧ cs' = cs.set x.1 c' := by
  unfold stepPar at h
  split at h
  · obtain ⟨c', hs, rfl⟩ := Option.map_eq_some_iff.1 h
    exact ⟨_, c', ‹_›, hs, rfl⟩
  · cases h

/-- **Non-interference.**  Index by index: component `i` exists at the end iff it did at the start, and then its final state is
the one it reaches when it runs alone through its own steps of the schedule. -/
theorem runPar_solo (sched : List (Nat × lbl)) (cs cs' : List σ) (h : runPar C cs sched = some cs') (i : Nat) :
    cs[i]?.map (fun c => runSolo C c (proj sched i)) = cs'[i]?.map some := by
  induction sched generalizing cs with
  | nil => cases h; rfl
  | cons x xs ih =>
    obtain ⟨_, hs, h⟩ := Option.bind_eq_some_iff.1 h
    obtain ⟨cx, c2, hx, hstep, rfl⟩ := stepPar_eq_some C hs
    rw [← ih _ h]
    by_cases hxi : x.1 = i
    · subst hxi
      simp [hx, List.getElem?_set_self (List.getElem?_eq_some_iff.1 hx).1, proj, runSolo, hstep]
    · simp [List.getElem?_set_ne hxi, proj, hxi]

theorem runPar_proj (sched : List (Nat × lbl)) (cs cs' : List σ) (h : runPar C cs sched = some cs')
    (i : Nat) (c : σ) (hc : cs[i]? = some c) :
    ∃ c', cs'[i]? = some c' ∧ runSolo C c (proj sched i) = some c' := by
  have := runPar_solo C sched cs cs' h i
  rw [hc] at this
  exact (Option.map_eq_some_iff.1 this.symm).imp fun _ h => ⟨h.1, h.2.symm⟩

/-! ## the validation component: okSoFar && (what is left) is the example's verdict throughout -/

def Val.inv (e : Bool) (s : Val) : Prop :=
  (s.okSoFar && s.todo.all id) = e ∧ ∀ v, s.verdict = some v → v = e

theorem Val.inv_start (e : List Bool) : ({ todo := e } : Val).inv (e.all id) := ⟨Bool.true_and _, nofun⟩

theorem Val.inv.verdict {e v : Bool} {s : Val} (hi : s.inv e) (hv : s.verdict = some v) : v = e := hi.2 v hv

theorem valComp_inv_step (e : Bool) {s s' : Val} {l : VLbl} (hi : s.inv e) (h : valComp.step s l = some s') : s'.inv e := by
  obtain ⟨todo, ok, v⟩ := s
  obtain ⟨h1, -⟩ := hi
  cases v with
  | some _ => cases l <;> cases h
  | none =>
    cases l with
    | check =>
      cases todo with
      | nil => cases h
      | cons b rest => cases h; exact ⟨by simpa [Bool.and_assoc] using h1, nofun⟩
    | decide =>
      simp only [valComp] at h
      split at h
      next ht =>
        -- the verdict is `ok`, reached with nothing left to check or with `ok = false`: in both cases `ok && todo.all id`
        cases h
        refine ⟨h1, fun v hv => ?_⟩
        cases hv
        rcases ht with rfl | rfl <;> simpa using h1
      next => cases h

theorem runSolo_val_inv (e : Bool) (ls : List VLbl) (s s' : Val) (hi : s.inv e) (h : runSolo valComp s ls = some s') : s'.inv e :=
  (runSolo_replays valComp).keeps (valComp_inv_step e) hi h

end Sedpack.Par
