import SedpackModel.ParMap
import SedpackProofs.Replay
/-! Invariant of M-PMAP: every worker serves its own slot in order; `next()` returns the input order.
`step_iff` is the one place where `step` is unfolded. -/
namespace Sedpack.PMap

/-- the number of items of slot `w`, i.e. of worker `w` -/
def cnt (c : Cfg) (w : Nat) : Nat := c.nq + (if w < c.nr then 1 else 0)

/-- `m = min(threads, #items)` workers are started, so with a worker there is a full round of items (`nq`); `nr` items
more do not fill a round -/
structure Good (c : Cfg) : Prop where
  nq : 0 < c.m → 1 ≤ c.nq
  nr : c.nr < c.m ∨ c.m = 0

theorem has_iff_lt_cnt (c : Cfg) (a b : Nat) (hb : b < c.m) : c.has a b ↔ a < cnt c b := by
  unfold Cfg.has cnt
  by_cases h : b < c.nr <;> simp [hb, h] <;> omega

theorem upd_same {α} (f : Nat → α) (w : Nat) (v : α) : upd f w v w = v := if_pos rfl
theorem upd_other {α} (f : Nat → α) (w x : Nat) (v : α) (h : x ≠ w) : upd f w v x = f x := if_neg h
theorem upd_self {α} (f : Nat → α) (w : Nat) : upd f w (f w) = f := by
  funext x; unfold upd; split
  · next h => rw [h]
  · rfl

def next (m q now : Nat) : Nat × Nat := if now + 1 < m then (q, now + 1) else (q + 1, 0)

/-- the state after a successful `next()`; the two `if`s of the model are moved to the values stored, so that a proof
about it need not split into four -/
def St.take (c : Cfg) (s : St) : St :=
  { s with posOut := upd s.posOut s.now (s.posOut s.now + 1), out := s.out ++ [(s.posOut s.now, s.now)],
           pipeLen := upd s.pipeLen s.now (if c.has (s.q + 1) s.now then s.pipeLen s.now + 1 else s.pipeLen s.now),
           fin := upd s.fin s.now (if c.has (s.q + 1) s.now then s.fin s.now else true),
           q := (next c.m s.q s.now).1, now := (next c.m s.q s.now).2 }

theorem ite_eq_some {α} {p : Prop} [Decidable p] {x y : Option α} {a : α} :
    (if p then x else y) = some a ↔ p ∧ x = some a ∨ ¬ p ∧ y = some a := by
  split <;> simp [*]

theorem step_iff {c s l s'} : step c s l = some s' ↔ match l with
    | .wRecv w => (w < c.m ∧ s.exited w = false ∧ s.posIn w = s.posW w) ∧
        (s.posIn w < s.pipeLen w ∧ { s with posIn := upd s.posIn w (s.posIn w + 1) } = s' ∨
         ¬ s.posIn w < s.pipeLen w ∧ (s.fin w = true ∨ s.dropped = true) ∧ { s with exited := upd s.exited w true } = s')
    | .wSend w => (w < c.m ∧ s.exited w = false ∧ s.posIn w = s.posW w + 1) ∧
        (s.dropped = true ∧ { s with exited := upd s.exited w true } = s' ∨
         s.dropped = false ∧ { s with posW := upd s.posW w (s.posW w + 1) } = s')
    | .cNext => (s.ended = false ∧ s.dropped = false) ∧
        (c.m = 0 ∧ { s with ended := true } = s' ∨
         ¬ c.m = 0 ∧ (s.posOut s.now < s.posW s.now ∧ s.take c = s' ∨
           ¬ s.posOut s.now < s.posW s.now ∧ s.exited s.now = true ∧ { s with ended := true } = s'))
    | .cDrop => s.dropped = false ∧ { s with dropped := true, fin := fun _ => true } = s' := by
  cases l <;>
    simp only [step, ite_eq_some, Option.some.injEq, reduceCtorEq, and_false, or_false, false_or, not_or, Bool.not_eq_true]
  case cNext =>
    by_cases h1 : c.has (s.q + 1) s.now <;> by_cases h2 : s.now + 1 < c.m <;>
      simp only [St.take, next, h1, h2, if_true, if_false, upd_self]

theorem replays (c : Cfg) : Replays (step c) (accepts c) := ⟨fun _ => rfl, fun _ _ _ => rfl⟩

/-- the invariants apply to every recorded run the model accepts -/
theorem accepts_reach (c : Cfg) : ∀ (tr : List Lbl) (s s' : St), Reach c s → accepts c s tr = some s' → Reach c s' :=
  fun _ _ _ => (replays c).keeps .step

theorem enumTo_succ_now (m q now : Nat) : enumTo m q (now + 1) = enumTo m q now ++ [(q, now)] := by
  simp [enumTo, List.range_succ, List.append_assoc]

theorem enumTo_wrap (m q : Nat) : enumTo m (q + 1) 0 = enumTo m q m := by
  simp [enumTo, List.range_succ, List.flatMap_append]

theorem enumTo_next {m q now : Nat} (h : now < m) :
    enumTo m (next m q now).1 (next m q now).2 = enumTo m q now ++ [(q, now)] := by
  rw [← enumTo_succ_now]; unfold next; split
  · rfl
  · rw [enumTo_wrap, show now + 1 = m by omega]

theorem mem_enumTo (m q now a b : Nat) : (a, b) ∈ enumTo m q now ↔ (a < q ∧ b < m) ∨ (a = q ∧ b < now) := by
  simp [enumTo]; omega

/-- results a consumer standing at `(q, now)` has taken from worker `w`; `cnt c w = taken c.nq c.nr w` -/
def taken (q now w : Nat) : Nat := q + if w < now then 1 else 0

theorem taken_self (q now : Nat) : taken q now now = q := by simp [taken]

theorem taken_next {m q now x : Nat} (hx : x < m) :
    taken (next m q now).1 (next m q now).2 x = taken q now x + if x = now then 1 else 0 := by
  unfold taken next
  by_cases h1 : now + 1 < m <;> by_cases h2 : x < now <;> by_cases h3 : x = now <;> simp [h1, h2, h3] <;> omega

/-- where item `k` of a worker with `n` items is, the consumer having taken `k` results from it: handed to the worker
(`pipeLen = k + 1`) and not yet received, being worked on, its result waiting to be taken; or there is no item `k`.
The indices are the worker's counters `pipeLen`, `posIn`, `posW`, `posOut`. -/
inductive Stage (n k : Nat) : Nat → Nat → Nat → Nat → Prop
  | handed : k < n → Stage n k (k + 1) k k k
  | busy : k < n → Stage n k (k + 1) (k + 1) k k
  | ready : k < n → Stage n k (k + 1) (k + 1) (k + 1) k
  | drained : k = n → Stage n k k k k k

namespace Stage
variable {n k p i r o : Nat} (h : Stage n k p i r o)
include h

theorem recv (hlt : i < p) : Stage n k p (i + 1) r o := by
  cases h with
  | handed h => exact .busy h
  | _ => exact absurd hlt (Nat.lt_irrefl _)

theorem send (hbusy : i = r + 1) : Stage n k p i (r + 1) o := by
  cases h with
  | busy h => exact .ready h
  | _ => exact absurd hbusy (Nat.ne_add_one _)

theorem take (hres : o < r) : Stage n (k + 1) (if k + 1 < n then p + 1 else p) i r (o + 1) := by
  cases h with
  | ready h =>
    split
    · next h' => exact .handed h'
    · next h' => exact .drained (Nat.le_antisymm h (Nat.le_of_not_lt h'))
  | _ => exact absurd hres (Nat.lt_irrefl _)

theorem idle (hres : ¬ o < r) : i = r + 1 ∨ i = r ∧ (i < p ∨ ¬ i < p ∧ n ≤ k) := by
  cases h with
  | handed => exact .inr ⟨rfl, .inl (Nat.lt_succ_self k)⟩
  | busy => exact .inl rfl
  | ready => exact absurd (Nat.lt_succ_self k) hres
  | drained h => exact .inr ⟨rfl, .inr ⟨Nat.lt_irrefl k, Nat.le_of_eq h.symm⟩⟩

theorem le : o = k ∧ k ≤ n ∧ p ≤ k + 1 ∧ i ≤ n ∧ r ≤ n := by
  cases h <;> simp [Nat.le_of_lt, Nat.succ_le_of_lt, *]
theorem posOut_eq : o = k := h.le.1
theorem taken_le : k ≤ n := h.le.2.1
theorem pipeLen_le : p ≤ k + 1 := h.le.2.2.1
theorem posIn_le : i ≤ n := h.le.2.2.2.1
theorem posW_le : r ≤ n := h.le.2.2.2.2
end Stage

/-- the pipeline of a worker with `n` items from which the consumer has taken `k` results: its counters `p = pipeLen`,
`i = posIn`, `r = posW`, `o = posOut` and flags `f = fin`, `e = exited`; `d = dropped`.  What it has been handed and told
follows from what has been taken from it. -/
structure WInv (n k : Nat) (d : Bool) (p : Nat) (f : Bool) (i r o : Nat) (e : Bool) : Prop where
  stage : Stage n k p i r o
  fin : d = false → (f = true ↔ n ≤ k)
  ex : e = true → f = true ∨ d = true

structure Inv (c : Cfg) (s : St) : Prop where
  now : 0 < c.m → s.now < c.m
  out : s.out = enumTo c.m s.q s.now
  /-- if `next()` has returned None without a drop, the worker whose turn it is has returned all its items -/
  ended : s.ended = true → s.dropped = false → 0 < c.m → cnt c s.now ≤ s.q
  w : ∀ w, w < c.m →
    WInv (cnt c w) (taken s.q s.now w) s.dropped (s.pipeLen w) (s.fin w) (s.posIn w) (s.posW w) (s.posOut w) (s.exited w)

theorem inv_init {c : Cfg} (g : Good c) : Inv c (init c) := by
  refine ⟨id, rfl, nofun, fun w hw => ?_⟩
  have h1 : 0 < cnt c w := Nat.lt_of_lt_of_le (g.nq (Nat.zero_lt_of_lt hw)) (Nat.le_add_right ..)
  simp only [init, if_pos hw, taken, Nat.not_lt_zero, if_false]
  exact ⟨.handed h1, fun _ => ⟨nofun, fun h => absurd h1 (Nat.not_lt_of_le h)⟩, nofun⟩

theorem inv_step {c s l s'} (hi : Inv c s) (hs : step c s l = some s') : Inv c s' := by
  have exit {w} (hfd : s.fin w = true ∨ s.dropped = true) : Inv c { s with exited := upd s.exited w true } := by
    refine { hi with w := fun x hx => ?_ }
    simp only [upd]; split
    · next h => subst h; exact { hi.w x hx with ex := fun _ => hfd }
    · exact hi.w x hx
  cases l with
  | wRecv w =>
    obtain ⟨-, ⟨hlt, rfl⟩ | ⟨-, hfd, rfl⟩⟩ := step_iff.mp hs
    · refine { hi with w := fun x hx => ?_ }
      have hx := hi.w x hx
      simp only [upd]; split
      · next h => subst h; exact { hx with stage := hx.stage.recv hlt }
      · exact hx
    · exact exit hfd
  | wSend w =>
    obtain ⟨⟨-, -, hbusy⟩, ⟨hd, rfl⟩ | ⟨-, rfl⟩⟩ := step_iff.mp hs
    · exact exit (.inr hd)
    · refine { hi with w := fun x hx => ?_ }
      have hx := hi.w x hx
      simp only [upd]; split
      · next h => subst h; exact { hx with stage := hx.stage.send hbusy }
      · exact hx
  | cDrop =>
    obtain ⟨-, rfl⟩ := step_iff.mp hs
    exact { hi with ended := nofun, w := fun x hx => { hi.w x hx with fin := nofun, ex := fun _ => .inr rfl } }
  | cNext =>
    obtain ⟨⟨he, hd⟩, ⟨hm, rfl⟩ | ⟨hm, ⟨hres, rfl⟩ | ⟨-, hex, rfl⟩⟩⟩ := step_iff.mp hs
    · exact { hi with ended := fun _ _ h => absurd hm (Nat.ne_of_gt h) }
    · have hnow := hi.now (Nat.pos_of_ne_zero hm)
      have hw := hi.w _ hnow
      rw [taken_self] at hw
      refine { now := fun _ => ?_, out := ?_, ended := fun h => (nomatch he.symm.trans h), w := fun x hx => ?_ } <;>
        simp only [St.take]
      · unfold next; split <;> omega
      · rw [enumTo_next hnow, hi.out, hw.stage.posOut_eq]
      · rw [taken_next hx]
        by_cases hxw : x = s.now
        · subst hxw
          simp only [upd_same, has_iff_lt_cnt c (s.q + 1) s.now hnow, if_pos, taken_self]
          -- the worker is handed its next item if it has one, else told to finish
          refine ⟨hw.stage.take hres, fun _ => ?_, fun hex => ?_⟩ <;> split
          · next h => exact (hw.fin hd).trans (iff_of_false (Nat.not_le_of_lt (Nat.lt_of_succ_lt h)) (Nat.not_le_of_lt h))
          · next h => exact iff_of_true rfl (Nat.le_of_not_lt h)
          · exact hw.ex hex
          · exact .inl rfl
        · simpa only [upd_other _ _ _ _ hxw, if_neg hxw, Nat.add_zero] using hi.w x hx
    · refine { hi with ended := fun _ _ h => ?_ }
      have hw := hi.w _ (hi.now h)
      rw [taken_self] at hw
      exact (hw.fin hd).mp ((hw.ex hex).resolve_right (ne_true_of_eq_false hd))

theorem inv_reach {c : Cfg} (g : Good c) {s : St} (h : Reach c s) : Inv c s := by
  induction h with
  | init => exact inv_init g
  | step _ hs ih => exact inv_step ih hs

/-- worker `nr`, which has no item in the last round, has not returned more items than it has -/
theorem Inv.pos {c s} (hi : Inv c s) (g : Good c) (hm : 0 < c.m) : s.q < c.nq ∨ s.q = c.nq ∧ s.now ≤ c.nr := by
  have h := (hi.w _ (g.nr.resolve_right (Nat.ne_of_gt hm))).stage.taken_le
  unfold taken cnt at h
  rw [if_neg (Nat.lt_irrefl _)] at h
  split at h <;> omega

def idx (m : Nat) (p : Nat × Nat) : Nat := p.1 * m + p.2

theorem enumTo_idx (m q now : Nat) : (enumTo m q now).map (idx m) = List.range (q * m + now) := by
  have row (a k : Nat) : ((List.range k).map fun b => (a, b)).map (idx m) = (List.range k).map (a * m + ·) :=
    List.map_map
  have rows : ((List.range q).flatMap fun a => (List.range m).map fun b => (a, b)).map (idx m) = List.range (q * m) := by
    induction q with
    | zero => simp
    | succ q ih => rw [List.range_succ, List.flatMap_append, List.map_append, ih, Nat.succ_mul, List.range_add,
                       List.flatMap_singleton, row]
  rw [enumTo, List.map_append, rows, row, List.range_add]

theorem length_enumTo (m q now : Nat) : (enumTo m q now).length = q * m + now := by
  rw [← List.length_map (idx m), enumTo_idx, List.length_range]

theorem Inv.out_length {c s} (hi : Inv c s) : s.out.length = s.q * c.m + s.now := by rw [hi.out, length_enumTo]

end Sedpack.PMap
