import SedpackProofs.ParMap
/-! Every schedule of M-PMAP over a finite input is finite: a progress counter that every step increases by one and
that the invariant bounds.  `S m f` sums `f` over the workers. -/
namespace Sedpack.PMap

def S (m : Nat) (f : Nat → Nat) : Nat := ((List.range m).map f).sum

theorem S_succ (m : Nat) (f : Nat → Nat) : S (m + 1) f = S m f + f m := by
  simp [S, List.range_succ]

theorem S_le (m : Nat) (f g : Nat → Nat) (h : ∀ w, w < m → f w ≤ g w) : S m f ≤ S m g := by
  induction m with
  | zero => exact Nat.le_refl _
  | succ n ih =>
    rw [S_succ, S_succ]
    exact Nat.add_le_add (ih fun w hw => h w (Nat.lt_succ_of_lt hw)) (h n (Nat.lt_succ_self n))

theorem S_add (m : Nat) (f g : Nat → Nat) : S m (fun w => f w + g w) = S m f + S m g := by
  induction m with
  | zero => rfl
  | succ n ih => rw [S_succ, S_succ, S_succ, ih]; omega

theorem S_const (m k : Nat) : S m (fun _ => k) = m * k := by
  induction m with
  | zero => exact (Nat.zero_mul k).symm
  | succ n ih => rw [S_succ, ih, Nat.succ_mul]

theorem S_congr (m : Nat) (f g : Nat → Nat) (h : ∀ w, w < m → f w = g w) : S m f = S m g :=
  congrArg List.sum (List.map_congr_left fun w hw => h w (List.mem_range.mp hw))

theorem S_upd_map {α} (m : Nat) (g : α → Nat) (f : Nat → α) (w : Nat) (v : α) (hw : w < m) :
    S m (fun x => g (upd f w v x)) + g (f w) = S m (fun x => g (f x)) + g v := by
  induction m with
  | zero => omega
  | succ n ih =>
    rw [S_succ, S_succ]
    by_cases hn : w = n
    · subst hn
      rw [S_congr w _ (fun x => g (f x)) fun x hx => by rw [upd_other f w x v (Nat.ne_of_lt hx)], upd_same]; omega
    · have := ih (by omega)
      rw [upd_other f w n v (Ne.symm hn)]; omega

theorem S_upd_succ (m : Nat) (f : Nat → Nat) (w : Nat) (hw : w < m) : S m (upd f w (f w + 1)) = S m f + 1 := by
  have : S m (upd f w (f w + 1)) + f w = S m f + (f w + 1) := S_upd_map m id f w _ hw
  omega

theorem S_taken (m q now : Nat) : S m (taken q now) = q * m + min now m := by
  induction m with
  | zero => simp [S]
  | succ n ih => rw [S_succ, ih, Nat.mul_succ]; unfold taken; split <;> omega

def b2n (b : Bool) : Nat := if b then 1 else 0
theorem b2n_false : b2n false = 0 := rfl
theorem b2n_true : b2n true = 1 := rfl

def prog (c : Cfg) (s : St) : Nat :=
  S c.m s.posIn + S c.m s.posW + S c.m s.posOut + S c.m (fun w => if s.exited w then 1 else 0) + b2n s.ended + b2n s.dropped

/-- the most that can ever be done: three operations per item, one exit per worker, one end, one drop -/
def bound (c : Cfg) : Nat := 3 * S c.m (cnt c) + c.m + 2

theorem prog_step {c s l s'} (hi : Inv c s) (hs : step c s l = some s') : prog c s' = prog c s + 1 := by
  have exit {w} (hw : w < c.m) (hex : s.exited w = false) :
      prog c { s with exited := upd s.exited w true } = prog c s + 1 := by
    have := S_upd_map c.m (fun b : Bool => if b then 1 else 0) s.exited w true hw
    simp only [hex, if_true, Bool.false_eq_true, if_false] at this
    simp only [prog]; omega
  cases l with
  | wRecv w =>
    obtain ⟨⟨hw, hex, -⟩, ⟨-, rfl⟩ | ⟨-, -, rfl⟩⟩ := step_iff.mp hs
    · simp +arith only [prog, S_upd_succ _ _ _ hw]
    · exact exit hw hex
  | wSend w =>
    obtain ⟨⟨hw, hex, -⟩, ⟨-, rfl⟩ | ⟨-, rfl⟩⟩ := step_iff.mp hs
    · exact exit hw hex
    · simp +arith only [prog, S_upd_succ _ _ _ hw]
  | cDrop =>
    obtain ⟨hd, rfl⟩ := step_iff.mp hs
    simp +arith only [prog, hd, b2n_false, b2n_true]
  | cNext =>
    obtain ⟨⟨he, -⟩, ⟨-, rfl⟩ | ⟨hm, ⟨-, rfl⟩ | ⟨-, -, rfl⟩⟩⟩ := step_iff.mp hs
    · simp +arith only [prog, he, b2n_false, b2n_true]
    · unfold St.take
      simp +arith only [prog, S_upd_succ _ _ _ (hi.now (Nat.pos_of_ne_zero hm))]
    · simp +arith only [prog, he, b2n_false, b2n_true]

theorem prog_le_bound {c s} (hi : Inv c s) : prog c s ≤ bound c := by
  have hIn := S_le c.m s.posIn (cnt c) fun w hw => (hi.w w hw).stage.posIn_le
  have hW := S_le c.m s.posW (cnt c) fun w hw => (hi.w w hw).stage.posW_le
  have hOut := S_le c.m s.posOut (cnt c) fun w hw => (hi.w w hw).stage.posOut_eq ▸ (hi.w w hw).stage.taken_le
  have hEx := S_le c.m (fun w => if s.exited w then 1 else 0) (fun _ => 1) fun w _ => by split <;> decide
  rw [S_const, Nat.mul_one] at hEx
  have hb : ∀ b, b2n b ≤ 1 := by decide
  have := hb s.ended; have := hb s.dropped
  unfold prog bound; omega

theorem todo_step {c : Cfg} (g : Good c) {s l s'} (hr : Reach c s) (hs : step c s l = some s') :
    Reach c s' ∧ bound c - prog c s' < bound c - prog c s := by
  have hb := prog_le_bound (inv_reach g (hr.step hs))
  rw [prog_step (inv_reach g hr) hs] at hb ⊢
  exact ⟨hr.step hs, Nat.sub_lt_sub_left hb (Nat.lt_succ_self _)⟩

end Sedpack.PMap
