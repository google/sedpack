import SedpackModel.Path
/-! M-PATH: lexical normalisation (`normComps`) on `..`-free components and on a concatenation.  `normComps acc cs` keeps
`acc` reversed (the lemmas bind it after the components), hence the `.reverse` where a result goes back in as accumulator. -/
namespace Sedpack.Path

theorem normComps_no_dotdot (cs acc : List String) (h : ".." ∉ cs) : normComps acc cs = acc.reverse ++ cs := by
  induction cs generalizing acc with
  | nil => simp [normComps]
  | cons c cs ih =>
    rw [List.mem_cons, not_or] at h
    rw [normComps, if_neg (Ne.symm h.1), ih _ h.2, List.reverse_cons, List.append_assoc, List.singleton_append]

theorem normComps_append (a b : List String) (acc : List String) :
    normComps acc (a ++ b) = normComps (normComps acc a).reverse b := by
  induction a generalizing acc with
  | nil => simp [normComps]
  | cons c cs ih =>
    simp only [List.cons_append, normComps]
    split <;> exact ih _

end Sedpack.Path
