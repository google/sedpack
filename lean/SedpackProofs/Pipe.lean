import SedpackProofs.IterSB
import SedpackProofs.IterRR
import SedpackProofs.PoolThm
import SedpackModel.Pipeline
/-! Stage lemmas for the pipelines: each complete run yields a permutation of (or exactly) its input. -/
namespace Sedpack.Pipe
open Sedpack.Iter

theorem SBRun_perm {b : Nat} {xs out : List Nat} (h : SBRun b xs out) : out.Perm xs := by
  obtain ⟨tr, s, ha, hd, rfl, rfl⟩ := h
  have hi := sb_inv_reach (sb_accepts_reach ha)
  have hph := hi.inPhase hd
  simpa only [pendL_of_none hph.1, hph.2, List.append_nil] using hi.perm.symm

theorem RRRun_perm {b : Nat} {ls : List (List Nat)} {out : List Nat} (h : RRRun b ls out) :
    out.Perm ls.flatten := by
  obtain ⟨tr, s, ha, hf, _, hp, rfl⟩ := h
  have hi := rr_inv_reach (rr_accepts_reach ha)
  simpa only [hp, (hi.done hf).2.2, restOf, List.flatMap_nil, List.append_nil] using hi.perm.symm

theorem PoolRun_perm {T n : Nat} {order : List Nat} (h : PoolRun T n order) : order.Perm (List.range n) := by
  obtain ⟨c, s, hT, hP, hn, hfw, _, hr, hend, rfl⟩ := h
  obtain ⟨n', hn', hp⟩ := Pool.normalEnd_perm c hfw (hT ▸ Nat.le_max_left 1 T)
    (hP ▸ Nat.le_trans (Nat.le_mul_of_pos_left _ Nat.two_pos) (Nat.le_add_right ..)) s hr hend
  cases hn.symm.trans hn'
  exact hp

theorem paths_perm {shuffle : Nat} {paths ps : List Nat} (h : PathsRun shuffle paths ps) : ps.Perm paths := by
  unfold PathsRun at h
  split at h
  · rw [h]
  · exact SBRun_perm h

theorem paths_examples_perm {shuffle : Nat} {paths ps : List Nat} (h : PathsRun shuffle paths ps) (ex : Nat → List Nat) :
    (ps.flatMap ex).Perm (paths.flatMap ex) := (paths_perm h).flatMap_right ex

theorem batches_flatten (T : Nat) (hT : 0 < T) (fuel : Nat) (xs : List α) (h : xs.length < fuel) :
    (batches T fuel xs).flatten = xs := by
  fun_induction batches T fuel xs
  case case1 => cases h  -- no fuel
  case case2 he => rw [(List.take_eq_nil_iff.mp he).resolve_left (Nat.ne_of_gt hT)]; rfl  -- nothing left
  case case3 xs _ hne ih =>  -- a batch and the rest
    have hpos : 0 < xs.length := List.length_pos_iff.mpr fun h0 => hne (List.take_eq_nil_iff.mpr (.inr h0))
    rw [List.flatten_cons, ih (by rw [List.length_drop]; omega), List.take_append_drop]

theorem batches_sizes (T fuel : Nat) (xs : List α) : ∀ b ∈ batches T fuel xs, 0 < b.length ∧ b.length ≤ T := by
  fun_induction batches T fuel xs
  case case1 | case2 => nofun
  case case3 hne ih =>
    intro b h
    rcases List.mem_cons.mp h with rfl | h
    · exact ⟨List.length_pos_iff.mpr hne, List.length_take_le ..⟩
    · exact ih b h

theorem batches_flatMap_eq {α β} (T : Nat) (hT : 0 < T) (ps : List α) (f : α → List β) :
    (batches T (ps.length + 1) ps).flatMap (fun batch => batch.flatMap f) = ps.flatMap f :=
  (List.flatMap_assoc (f := id)).symm.trans
    (by rw [List.flatMap_id, batches_flatten T hT _ ps (Nat.lt_succ_self _)])

end Sedpack.Pipe
