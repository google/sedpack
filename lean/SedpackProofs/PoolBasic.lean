import SedpackModel.Pool
/-! Counting lemmas for M-POOL: worker-class counts as sums of indicators, queue shape. -/
namespace Sedpack.Pool

theorem sum_set : ∀ (l : List Nat) (i : Nat) (x y : Nat), l[i]? = some x →
    (l.set i y).sum + x = l.sum + y
  | a :: as, 0, x, y, h => by
    cases h; show y + as.sum + a = a + as.sum + y
    rw [Nat.add_right_comm, Nat.add_comm y, Nat.add_right_comm a]
  | a :: as, i+1, x, y, h => by
    rw [List.set_cons_succ, List.sum_cons, List.sum_cons, Nat.add_assoc, sum_set as i x y h, Nat.add_assoc]

def isStopped : W → Nat | .stopped => 1 | _ => 0
def isHoldStop : W → Nat | .hold .stop => 1 | _ => 0
def isHoldItem : W → Nat | .hold (.item _) => 1 | _ => 0
def isIdle : W → Nat | .idle => 1 | _ => 0
def isDead : W → Nat | .dead => 1 | _ => 0
def holdIdx (i : Nat) : W → Nat | .hold (.item j) => if j = i then 1 else 0 | _ => 0
def cnt (f : W → Nat) (ws : List W) : Nat := (ws.map f).sum

theorem cnt_set (f : W → Nat) (ws : List W) (w : Nat) (a b : W) (h : ws[w]? = some a) :
    cnt f (ws.set w b) + f a = cnt f ws + f b := by
  unfold cnt
  rw [List.map_set]
  exact sum_set (ws.map f) w (f a) (f b) (by simp [h])

theorem cnt_cons (f : W → Nat) (w : W) (ws : List W) : cnt f (w :: ws) = f w + cnt f ws := rfl

theorem cnt_replicate (f : W → Nat) (n : Nat) (a : W) : cnt f (List.replicate n a) = n * f a := by
  rw [cnt, List.map_replicate, List.sum_replicate_nat]

theorem cnt_partition (ws : List W) :
    cnt isStopped ws + cnt isHoldStop ws + cnt isHoldItem ws + cnt isIdle ws + cnt isDead ws = ws.length := by
  induction ws with
  | nil => rfl
  | cons w ws ih =>
    have : isStopped w + isHoldStop w + isHoldItem w + isIdle w + isDead w = 1 :=
      match w with | .hold (.item _) | .hold .stop | .idle | .stopped | .dead => rfl
    rw [List.length_cons, ← ih, ← this]; simp +arith only [cnt_cons]

theorem cnt_holdIdx_le (i : Nat) (ws : List W) : cnt (holdIdx i) ws ≤ cnt isHoldItem ws := by
  induction ws with
  | nil => exact Nat.le_refl _
  | cons w ws ih =>
    have : holdIdx i w ≤ isHoldItem w :=
      match w with
      | .hold (.item j) => show (if j = i then 1 else 0) ≤ 1 by split <;> simp
      | .hold .stop | .idle | .stopped | .dead => Nat.le_refl _
    exact Nat.add_le_add this ih

theorem cnt_pos {f : W → Nat} {ws : List W} {a : W} (ha : a ∈ ws) (h : 0 < f a) : 0 < cnt f ws :=
  List.sum_pos_iff_exists_pos_nat.mpr ⟨_, List.mem_map_of_mem ha, h⟩

theorem exists_of_cnt_lt (f : W → Nat) (ws : List W) (h : cnt f ws < ws.length) : ∃ a ∈ ws, f a = 0 := by
  induction ws with
  | nil => cases h
  | cons x xs ih =>
    by_cases hx : f x = 0
    · exact ⟨x, List.mem_cons_self, hx⟩
    · obtain ⟨a, ha, h0⟩ := ih (by rw [cnt_cons, List.length_cons] at h; omega)
      exact ⟨a, List.mem_cons_of_mem _ ha, h0⟩

def resStops : List Res → Nat
  | [] => 0
  | .stop :: rs => resStops rs + 1
  | _ :: rs => resStops rs
def resItems : List Res → Nat
  | [] => 0
  | .stop :: rs => resItems rs
  | _ :: rs => resItems rs + 1
def resIdx (i : Nat) : List Res → Nat
  | [] => 0
  | .val j :: rs => resIdx i rs + (if j = i then 1 else 0)
  | .err j :: rs => resIdx i rs + (if j = i then 1 else 0)
  | .stop :: rs => resIdx i rs
def msgStops : List Msg → Nat
  | [] => 0
  | .stop :: ms => msgStops ms + 1
  | _ :: ms => msgStops ms
def msgItems : List Msg → Nat
  | [] => 0
  | .stop :: ms => msgItems ms
  | _ :: ms => msgItems ms + 1
def msgIdx (i : Nat) : List Msg → Nat
  | [] => 0
  | .item j :: ms => msgIdx i ms + (if j = i then 1 else 0)
  | .stop :: ms => msgIdx i ms

theorem resStops_append (a b : List Res) : resStops (a ++ b) = resStops a + resStops b := by
  fun_induction resStops a <;> simp_all [resStops, Nat.add_right_comm]
theorem resItems_append (a b : List Res) : resItems (a ++ b) = resItems a + resItems b := by
  fun_induction resItems a <;> simp_all [resItems, Nat.add_right_comm]
theorem resIdx_append (i : Nat) (a b : List Res) : resIdx i (a ++ b) = resIdx i a + resIdx i b := by
  fun_induction resIdx i a <;> simp_all [resIdx, Nat.add_right_comm]
theorem msgStops_append (a b : List Msg) : msgStops (a ++ b) = msgStops a + msgStops b := by
  fun_induction msgStops a <;> simp_all [msgStops, Nat.add_right_comm]
theorem msgItems_append (a b : List Msg) : msgItems (a ++ b) = msgItems a + msgItems b := by
  fun_induction msgItems a <;> simp_all [msgItems, Nat.add_right_comm]
theorem msgIdx_append (i : Nat) (a b : List Msg) : msgIdx i (a ++ b) = msgIdx i a + msgIdx i b := by
  fun_induction msgIdx i a <;> simp_all [msgIdx, Nat.add_right_comm]
theorem msg_length (l : List Msg) : msgItems l + msgStops l = l.length := by
  fun_induction msgItems l <;> simp_all [msgStops, Nat.add_right_comm _ 1, ← Nat.add_assoc]
theorem msgStops_replicate (k : Nat) : msgStops (List.replicate k .stop) = k := by
  induction k with
  | zero => rfl
  | succ n ih => rw [List.replicate_succ, msgStops, ih]
theorem msgItems_take_le (l : List Msg) (q : Nat) : msgItems (l.take q) ≤ msgItems l :=
  Nat.le.intro ((msgItems_append ..).symm.trans (congrArg _ (List.take_append_drop q l)))
/- The next two have no user; they are the companions of `msgItems_take_le` and `cnt_holdIdx_le`. -/
theorem msgIdx_le_items (i : Nat) (l : List Msg) : msgIdx i l ≤ msgItems l := by
  fun_induction msgIdx i l <;> simp only [msgItems] <;> (try split) <;> omega
theorem msgStops_take_le (l : List Msg) (q : Nat) : msgStops (l.take q) ≤ msgStops l :=
  Nat.le.intro ((msgStops_append ..).symm.trans (congrArg _ (List.take_append_drop q l)))

theorem isHold_msg (m : Msg) : isHoldStop (.hold m) = msgStops [m] ∧ isHoldItem (.hold m) = msgItems [m] ∧
    ∀ i, holdIdx i (.hold m) = msgIdx i [m] := by
  cases m <;> simp [isHoldStop, isHoldItem, holdIdx, msgStops, msgItems, msgIdx]

/- A decrement is stated as `old = new + 1`, the way the users rewrite.  `h` is `rfl` at every call. -/
theorem cnt_get {ws ws' : List W} {w : Nat} {m : Msg} (hw : ws[w]? = some .idle) (h : ws' = ws.set w (.hold m)) :
    cnt isStopped ws' = cnt isStopped ws ∧ cnt isDead ws' = cnt isDead ws ∧
    cnt isHoldStop ws' = cnt isHoldStop ws + msgStops [m] ∧ cnt isHoldItem ws' = cnt isHoldItem ws + msgItems [m] ∧
    ∀ i, cnt (holdIdx i) ws' = cnt (holdIdx i) ws + msgIdx i [m] :=
  have e := fun f => cnt_set f ws w _ (.hold m) hw
  have ⟨m1, m2, m3⟩ := isHold_msg m
  h ▸ ⟨e isStopped, e isDead, m1 ▸ e isHoldStop, m2 ▸ e isHoldItem, fun i => m3 i ▸ e (holdIdx i)⟩

theorem cnt_putStop {ws ws' : List W} {w : Nat} (hw : ws[w]? = some (.hold .stop)) (h : ws' = ws.set w .stopped) :
    cnt isStopped ws' = cnt isStopped ws + 1 ∧ cnt isDead ws' = cnt isDead ws ∧
    cnt isHoldStop ws = cnt isHoldStop ws' + 1 ∧ cnt isHoldItem ws' = cnt isHoldItem ws ∧
    ∀ i, cnt (holdIdx i) ws' = cnt (holdIdx i) ws :=
  have e := fun f => cnt_set f ws w _ .stopped hw
  h ▸ ⟨e isStopped, e isDead, (e isHoldStop).symm, e isHoldItem, fun i => e (holdIdx i)⟩

theorem cnt_putItem {ws ws' : List W} {w i : Nat} (hw : ws[w]? = some (.hold (.item i))) (h : ws' = ws.set w .idle) :
    cnt isStopped ws' = cnt isStopped ws ∧ cnt isDead ws' = cnt isDead ws ∧
    cnt isHoldStop ws' = cnt isHoldStop ws ∧ cnt isHoldItem ws = cnt isHoldItem ws' + 1 ∧
    ∀ j, cnt (holdIdx j) ws = cnt (holdIdx j) ws' + (if i = j then 1 else 0) :=
  have e := fun f => cnt_set f ws w _ .idle hw
  h ▸ ⟨e isStopped, e isDead, e isHoldStop, (e isHoldItem).symm, fun j => (e (holdIdx j)).symm⟩

theorem take_succ_of_drop {α} (l : List α) (q : Nat) (m : α) (rest : List α) (h : m :: rest = l.drop q) :
    l.take (q+1) = l.take q ++ [m] ∧ rest = l.drop (q+1) ∧ q + 1 ≤ l.length := by
  have hq : q < l.length := Nat.lt_of_not_le fun hge => by rw [List.drop_eq_nil_of_le hge] at h; cases h
  rw [List.drop_eq_getElem_cons hq] at h
  cases h
  exact ⟨List.take_succ_eq_append_getElem hq, rfl, hq⟩

end Sedpack.Pool
