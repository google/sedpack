import SedpackProofs.PoolBasic
import SedpackProofs.PoolStep
/-! The invariant of M-POOL (repaired semantics: `forward = true`) and its preservation. -/
namespace Sedpack.Pool

/-- the consumer is inside the loop of `imap_unordered` -/
def counting : Ph → Bool | .prefill | .waiting | .got _ => true | _ => false
def gotCnt : Ph → Nat | .got _ => 1 | _ => 0
def gotIdx (i : Nat) : Ph → Nat | .got j => if j = i then 1 else 0 | _ => 0
def resetK (c : Cfg) : Ph → Nat
  | .resetting k _ => k
  | .fin _ => c.T
  | _ => 0
/-- everything the consumer has ever put on `to_process`, in order -/
def sent (c : Cfg) (s : St) : List Msg :=
  (List.range s.p).map (chain c) ++ List.replicate (resetK c s.ph) .stop
def taken (c : Cfg) (s : St) : List Msg := (sent c s).take s.q

def okRes (c : Cfg) : Res → Prop
  | .val i => c.fails i = false
  | _ => True

/-- `stops`: every sentinel taken is held by a worker or that worker has returned.  `cons`: the sentinel of a returned
worker is in `results` or the consumer has counted it (`T - active`).  `tail`: once all `T` have returned, `results` is
empty or ends in a sentinel, so where the loop ends (`active = 0`, hence no sentinel in `results`) it is empty.
`rk`: `finish_and_reset` has sent at most `T` sentinels (`k` of them are in `sent`, through `resetK`).  `nodead`:
nobody dies under `forward = true`.  `items`, `idx`: every item taken is held, in `results`, just received or yielded.
`inflight`: `P` puts before the first `get`, then one per result.  `okres`, `okgot`, `okout`: a value on its way to
`out` stems from a non-failing input. -/
structure Inv (c : Cfg) (s : St) : Prop where
  len : s.ws.length = c.T
  act : s.active ≤ c.T
  shape : s.toProc = (sent c s).drop s.q
  qle : s.q ≤ (sent c s).length
  rk : ∀ k w, s.ph = .resetting k w → k ≤ c.T
  stops : cnt isHoldStop s.ws + cnt isStopped s.ws = msgStops (taken c s)
  cons : counting s.ph = true → cnt isStopped s.ws = resStops s.results + (c.T - s.active)
  tail : cnt isStopped s.ws = c.T → s.results = [] ∨ s.results.getLast? = some .stop
  nodead : cnt isDead s.ws = 0
  pre : s.ph = .prefill → s.p < c.P ∧ s.out = []
  inflight : (s.ph = .waiting ∨ ∃ i, s.ph = .got i) → s.p = c.P + s.out.length
  items : counting s.ph = true →
    cnt isHoldItem s.ws + resItems s.results + gotCnt s.ph + s.out.length = msgItems (taken c s)
  idx : counting s.ph = true → ∀ i,
    cnt (holdIdx i) s.ws + resIdx i s.results + gotIdx i s.ph + s.out.count i = msgIdx i (taken c s)
  okres : ∀ r ∈ s.results, okRes c r
  okgot : ∀ i, s.ph = .got i → c.fails i = false
  okout : ∀ i ∈ s.out, c.fails i = false

theorem inv_init (c : Cfg) (hP : 1 ≤ c.P) : Inv c (init c) := by
  constructor <;> simp [init, sent, taken, resetK, counting, msgStops, msgItems, msgIdx, resStops, resItems, resIdx,
    gotCnt, gotIdx, cnt_replicate, isStopped, isHoldStop, isHoldItem, isDead, holdIdx]
  case pre => exact hP

/-- The facts are handed to `k` so that `s'` is read off the goal. -/
theorem Inv.enq_then {c : Cfg} {s s' : St} (hi : Inv c s) {x : Msg} (hs : sent c s' = sent c s ++ [x])
    (ht : s'.toProc = s.toProc ++ [x]) (hq : s'.q = s.q)
    (k : s'.toProc = (sent c s').drop s'.q → s'.q ≤ (sent c s').length → taken c s' = taken c s → Inv c s') :
    Inv c s' := by
  apply k
  · rw [ht, hs, hq, List.drop_append_of_le_length hi.qle, ← hi.shape]
  · rw [hs, hq, List.length_append]; exact Nat.le_add_right_of_le hi.qle
  · rw [taken, hs, hq, List.take_append_of_le_length hi.qle, taken]

theorem Inv.deq_then {c : Cfg} {s s' : St} (hi : Inv c s) {m : Msg} (hs : sent c s' = sent c s)
    (ht : s.toProc = m :: s'.toProc) (hq : s'.q = s.q + 1)
    (k : s'.toProc = (sent c s').drop s'.q → s'.q ≤ (sent c s').length → taken c s' = taken c s ++ [m] → Inv c s') :
    Inv c s' := by
  obtain ⟨h1, h2, h3⟩ := take_succ_of_drop _ _ _ _ (ht ▸ hi.shape)
  rw [taken, hs, hq] at k
  exact k h2 h3 h1

/-- the hypothesis is `Inv.tail` before the consumer takes `r` from `results` -/
theorem tail_of_cons_results {r : Res} {rs : List Res}
    (h : (r :: rs) = [] ∨ (r :: rs).getLast? = some Res.stop) : rs = [] ∨ rs.getLast? = some Res.stop := by
  cases rs with
  | nil => left; rfl
  | cons x xs => right; simpa [List.getLast?_cons_cons] using h

theorem getLast_append_stop (l : List Res) : (l ++ [Res.stop]).getLast? = some Res.stop :=
  List.getLast?_concat

/-- Per rule, `{ hi with … }` lists the fields whose statement changes.  `nofun`: the field's hypothesis on the phase is
false in the new phase.  In a counting field a message has moved from one summand to another: `simp +arith` on the
definitions of the two summands shows that the sum is the old one. -/
theorem inv_step {c : Cfg} {s s' : St} {l : Lbl} (hfw : c.forward = true) (hi : Inv c s)
    (hs : step c s l = some s') : Inv c s' := by
  cases Step.of_step hs with
  | cPut hp =>
    exact hi.enq_then (by simp [sent, resetK, List.range_succ]) rfl rfl fun hsh hq htk => { hi with
      shape := hsh, qle := hq, stops := htk ▸ hi.stops
      pre := fun _ => ⟨hp, (hi.pre rfl).2⟩
      inflight := nofun
      items := fun _ => htk ▸ hi.items rfl
      idx := fun _ => htk ▸ hi.idx rfl }
  | cPutLast hp =>
    obtain ⟨hlt, rfl⟩ := hi.pre rfl
    exact hi.enq_then (by simp [sent, resetK, List.range_succ]) rfl rfl fun hsh hq htk => { hi with
      shape := hsh, qle := hq, stops := htk ▸ hi.stops
      rk := nofun, pre := nofun, okgot := nofun
      inflight := fun _ => Nat.le_antisymm hlt hp
      items := fun _ => htk ▸ hi.items rfl
      idx := fun _ => htk ▸ hi.idx rfl }
  | cGetStop ha =>
    exact { hi with
      act := Nat.le_trans (Nat.sub_le _ _) hi.act
      -- the sentinel moves from `results` to `T - active` (`0 < active` by the rule); `at h'` reduces the projection
      -- `St.active ⟨…⟩` for `omega`
      cons := fun _ => by have h := hi.cons rfl; have h' := hi.act; simp only [resStops] at h h' ⊢; omega
      tail := fun h => tail_of_cons_results (hi.tail h)
      items := fun _ => hi.items rfl
      idx := fun _ => hi.idx rfl
      okres := (List.forall_mem_cons.mp hi.okres).2 }
  | cGetVal =>
    exact { hi with
      rk := nofun, pre := nofun
      cons := fun _ => hi.cons rfl
      inflight := fun _ => hi.inflight (.inl rfl)
      tail := fun h => tail_of_cons_results (hi.tail h)
      items := fun _ => .trans (by simp +arith only [gotCnt, resItems]) (hi.items rfl)
      idx := fun _ j => .trans (by simp +arith only [gotIdx, resIdx]) (hi.idx rfl j)
      okres := (List.forall_mem_cons.mp hi.okres).2
      okgot := fun j h => by cases h; exact (List.forall_mem_cons.mp hi.okres).1 }
  | cGetErr =>
    exact { hi with
      rk := fun _ _ h => by cases h; exact Nat.zero_le _
      cons := nofun, pre := nofun, inflight := nofun, items := nofun, idx := nofun, okgot := nofun
      tail := fun h => tail_of_cons_results (hi.tail h)
      okres := (List.forall_mem_cons.mp hi.okres).2 }
  | cPutNext =>
    exact hi.enq_then (by simp [sent, resetK, List.range_succ]) rfl rfl fun hsh hq htk => { hi with
      shape := hsh, qle := hq, stops := htk ▸ hi.stops
      rk := nofun, pre := nofun, okgot := nofun
      cons := fun _ => hi.cons rfl
      inflight := fun _ => by
        simpa +arith only [List.length_append, List.length_singleton] using hi.inflight (.inr ⟨_, rfl⟩)
      items := fun _ => by
        simpa +arith only [htk, gotCnt, List.length_append, List.length_singleton] using hi.items rfl
      idx := fun _ j => by
        simpa +arith only [htk, gotIdx, List.count_append, List.count_singleton, beq_iff_eq] using hi.idx rfl j
      okout := List.forall_mem_append.mpr ⟨hi.okout, List.forall_mem_singleton.mpr (hi.okgot _ rfl)⟩ }
  | cFinish | cAbandon =>
    exact { hi with
      rk := fun _ _ h => by cases h; exact Nat.zero_le _
      cons := nofun, pre := nofun, inflight := nofun, items := nofun, idx := nofun, okgot := nofun }
  | cResetMore hk =>
    exact hi.enq_then (by simp [sent, resetK, List.replicate_succ']) rfl rfl fun hsh hq htk => { hi with
      shape := hsh, qle := hq, stops := htk ▸ hi.stops
      rk := fun _ _ h => by cases h; exact hk
      cons := nofun, pre := nofun, inflight := nofun, items := nofun, idx := nofun, okgot := nofun }
  | cResetDone hk =>
    -- `k = T`: `resetK`, hence `sent`, is the same in `fin why` as in `resetting k why`
    obtain rfl := Nat.le_antisymm (hi.rk _ _ rfl) hk
    exact { hi with
      act := Nat.zero_le _
      rk := nofun, cons := nofun, pre := nofun, inflight := nofun, items := nofun, idx := nofun, okgot := nofun }
  | wGet hw =>
    obtain ⟨hStopped, hDead, hHoldStop, hHoldItem, hIdx⟩ := cnt_get hw rfl
    exact hi.deq_then rfl rfl rfl fun hsh hq htk => { hi with
      len := (List.length_set ..).trans hi.len
      shape := hsh, qle := hq
      stops := by simpa +arith only [htk, msgStops_append, hStopped, hHoldStop] using hi.stops
      cons := fun h => hStopped ▸ hi.cons h
      tail := fun h => hi.tail (hStopped ▸ h)
      nodead := hDead ▸ hi.nodead
      items := fun h => by simpa +arith only [htk, msgItems_append, hHoldItem] using hi.items h
      idx := fun h j => by simpa +arith only [htk, msgIdx_append, hIdx] using hi.idx h j }
  | wPutStop hw =>
    obtain ⟨hStopped, hDead, hHoldStop, hHoldItem, hIdx⟩ := cnt_putStop hw rfl
    exact { hi with
      len := (List.length_set ..).trans hi.len
      stops := .trans (by simp +arith only [hStopped, hHoldStop]) hi.stops
      cons := fun h => by have h := hi.cons h; simp +arith only [hStopped, resStops_append, resStops] at h ⊢; exact h
      tail := fun _ => .inr (getLast_append_stop _)
      nodead := hDead ▸ hi.nodead
      items := fun h => by rw [hHoldItem, resItems_append]; exact hi.items h
      idx := fun h j => by rw [hIdx, resIdx_append]; exact hi.idx h j
      okres := List.forall_mem_append.mpr ⟨hi.okres, List.forall_mem_singleton.mpr trivial⟩ }
  | wPutErr hw hf | wPutVal hw hf =>
    obtain ⟨hStopped, hDead, hHoldStop, hHoldItem, hIdx⟩ := cnt_putItem hw rfl
    -- the worker at `w` holds an item, so not all `T` workers have stopped
    have hlt : cnt isStopped ‹List W› < c.T := by have := cnt_partition ‹List W›; rw [hi.len] at this; omega
    exact { hi with
      len := (List.length_set ..).trans hi.len
      stops := by rw [hStopped, hHoldStop]; exact hi.stops
      cons := fun h => by rw [hStopped, resStops_append]; exact hi.cons h
      tail := fun h => absurd (hStopped ▸ h) (Nat.ne_of_lt hlt)
      nodead := hDead ▸ hi.nodead
      items := fun h => .trans (by simp +arith only [hHoldItem, resItems_append, resItems]) (hi.items h)
      idx := fun h j => .trans (by simp +arith only [hIdx, resIdx_append, resIdx]) (hi.idx h j)
      okres := List.forall_mem_append.mpr ⟨hi.okres, List.forall_mem_singleton.mpr (by simp [okRes, hf])⟩ }
  | wPutDead _ _ hf => cases hfw.symm.trans hf

theorem inv_reach {c : Cfg} {s : St} (hfw : c.forward = true) (hP : 1 ≤ c.P) (h : Reach c s) : Inv c s := by
  induction h with
  | init => exact inv_init c hP
  | step _ hs ih => exact inv_step hfw ih hs

end Sedpack.Pool
