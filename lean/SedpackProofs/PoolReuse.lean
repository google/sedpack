import SedpackProofs.PoolThm
/-! A re-used pool is a list of independent single passes. -/
namespace Sedpack.Pool

theorem mstep_old {cs : Nat → Cfg} {m m' : Multi} {g : Nat} {l : Lbl} (h : mstep cs m (.old g l) = some m') :
    ∃ s s', m.past[g]? = some s ∧ isWorker l = true ∧ step (cs g) s l = some s' ∧
      m' = { m with past := m.past.set g s' } := by
  rw [mstep] at h
  split at h
  · split at h
    · obtain ⟨s', hs, rfl⟩ := Option.map_eq_some_iff.mp h
      exact ⟨_, s', ‹_›, ‹_›, hs, rfl⟩
    · cases h
  · cases h

theorem mstep_newPass {cs : Nat → Cfg} {m m' : Multi} (h : mstep cs m .newPass = some m') :
    ∃ why, m.cur.ph = .fin why ∧ m' = ⟨m.past ++ [m.cur], init (cs (m.past.length + 1))⟩ := by
  rw [mstep] at h
  split at h
  · cases h; exact ⟨_, ‹_›, rfl⟩
  · cases h

structure MInv (cs : Nat → Cfg) (m : Multi) : Prop where
  cur : Reach (cs m.past.length) m.cur
  past : ∀ g s, m.past[g]? = some s → Reach (cs g) s ∧ ∃ why, s.ph = .fin why

theorem minv_step {cs : Nat → Cfg} {m m' : Multi} {l : MLbl} (hi : MInv cs m) (hs : mstep cs m l = some m') :
    MInv cs m' := by
  cases l with
  | cur l =>
    obtain ⟨s, hstep, rfl⟩ := Option.map_eq_some_iff.mp hs
    exact ⟨hi.cur.step hstep, hi.past⟩
  | old g l =>
    -- only `past[g]` changes, by a worker's step, and that keeps the phase `fin why`
    obtain ⟨s, s', hg, hw, hstep, rfl⟩ := mstep_old hs
    refine ⟨by simpa using hi.cur, fun g' s1 h1 => ?_⟩
    by_cases hgg : g = g'
    · subst hgg
      rw [List.getElem?_set_self (List.getElem?_eq_some_iff.mp hg).1] at h1
      cases h1
      obtain ⟨hr, why, hph⟩ := hi.past g s hg
      exact ⟨hr.step hstep, why, ((Step.of_step hstep).worker_ph hw).trans hph⟩
    · exact hi.past g' s1 (by rwa [List.getElem?_set_ne hgg] at h1)
  | newPass =>
    obtain ⟨why, hph, rfl⟩ := mstep_newPass hs
    refine ⟨by simpa using Reach.init, fun g s h => ?_⟩
    by_cases hg : g < m.past.length
    · exact hi.past g s (by rwa [List.getElem?_append_left hg] at h)
    · rw [List.getElem?_append_right (Nat.le_of_not_lt hg), List.getElem?_singleton] at h
      split at h <;> cases h
      obtain rfl : g = m.past.length := by omega
      exact ⟨hi.cur, why, hph⟩

theorem minv_reach {cs : Nat → Cfg} {m : Multi} (h : MReach cs m) : MInv cs m := by
  induction h with
  | init => exact ⟨Reach.init, nofun⟩
  | step _ hs ih => exact minv_step ih hs

end Sedpack.Pool
