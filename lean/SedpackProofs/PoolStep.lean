import SedpackModel.Pool
import SedpackProofs.Replay
/-! `Pool.step` as a relation: one rule per branch, so that a proof about steps is a `cases`. -/
namespace Sedpack.Pool

/-- States are written out as `⟨toProc, results, ws, ph, p, q, active, out⟩`: after `cases` the guards of a
branch are part of the state, and whatever the branch leaves alone is the same term before and after. -/
inductive Step (c : Cfg) : St → Lbl → St → Prop
  | cPut : p + 1 < c.P →
    Step c ⟨tp, rs, ws, .prefill, p, q, a, out⟩ .cPut ⟨tp ++ [chain c p], rs, ws, .prefill, p + 1, q, a, out⟩
  | cPutLast : c.P ≤ p + 1 →
    Step c ⟨tp, rs, ws, .prefill, p, q, a, out⟩ .cPut ⟨tp ++ [chain c p], rs, ws, .waiting, p + 1, q, a, out⟩
  | cGetStop : 0 < a →
    Step c ⟨tp, .stop :: rs, ws, .waiting, p, q, a, out⟩ .cGet ⟨tp, rs, ws, .waiting, p, q, a - 1, out⟩
  | cGetVal : 0 < a →
    Step c ⟨tp, .val i :: rs, ws, .waiting, p, q, a, out⟩ .cGet ⟨tp, rs, ws, .got i, p, q, a, out⟩
  | cGetErr : 0 < a →
    Step c ⟨tp, .err i :: rs, ws, .waiting, p, q, a, out⟩ .cGet ⟨tp, rs, ws, .resetting 0 1, p, q, a, out⟩
  | cPutNext {tp rs ws i p q a out} :
    Step c ⟨tp, rs, ws, .got i, p, q, a, out⟩ .cPutNext
      ⟨tp ++ [chain c p], rs, ws, .waiting, p + 1, q, a, out ++ [i]⟩
  | cFinish :
    Step c ⟨tp, rs, ws, .waiting, p, q, 0, out⟩ .cFinish ⟨tp, rs, ws, .resetting 0 0, p, q, 0, out⟩
  | cAbandon :
    Step c ⟨tp, rs, ws, .waiting, p, q, a, out⟩ .cAbandon ⟨tp, rs, ws, .resetting 0 2, p, q, a, out⟩
  | cResetMore : k < c.T →
    Step c ⟨tp, rs, ws, .resetting k why, p, q, a, out⟩ .cReset
      ⟨tp ++ [.stop], rs, ws, .resetting (k + 1) why, p, q, a, out⟩
  | cResetDone : c.T ≤ k →
    Step c ⟨tp, rs, ws, .resetting k why, p, q, a, out⟩ .cReset ⟨tp, rs, ws, .fin why, p, q, 0, out⟩
  | wGet : ws[w]? = some .idle →
    Step c ⟨m :: tp, rs, ws, ph, p, q, a, out⟩ (.wGet w) ⟨tp, rs, ws.set w (.hold m), ph, p, q + 1, a, out⟩
  | wPutStop : ws[w]? = some (.hold .stop) →
    Step c ⟨tp, rs, ws, ph, p, q, a, out⟩ (.wPut w) ⟨tp, rs ++ [.stop], ws.set w .stopped, ph, p, q, a, out⟩
  | wPutErr : ws[w]? = some (.hold (.item i)) → c.fails i = true → c.forward = true →
    Step c ⟨tp, rs, ws, ph, p, q, a, out⟩ (.wPut w) ⟨tp, rs ++ [.err i], ws.set w .idle, ph, p, q, a, out⟩
  | wPutDead : ws[w]? = some (.hold (.item i)) → c.fails i = true → c.forward = false →
    Step c ⟨tp, rs, ws, ph, p, q, a, out⟩ (.wPut w) ⟨tp, rs, ws.set w .dead, ph, p, q, a, out⟩
  | wPutVal : ws[w]? = some (.hold (.item i)) → c.fails i = false →
    Step c ⟨tp, rs, ws, ph, p, q, a, out⟩ (.wPut w) ⟨tp, rs ++ [.val i], ws.set w .idle, ph, p, q, a, out⟩

theorem Step.of_step {c s l s'} (h : step c s l = some s') : Step c s l s' := by
  obtain ⟨tp, rs, ws, ph, p, q, a, out⟩ := s
  -- one bullet per label whose outer guard holds (two for `wPut`), in the order of `Lbl`; `cases h` closes a `none`
  -- branch and substitutes `s'` in the others
  cases l <;> dsimp only [step] at h <;> split at h <;> try cases h
  · subst ‹ph = _›
    split
    · exact .cPutLast ‹_›
    · exact .cPut (Nat.lt_of_not_le ‹_›)
  · obtain ⟨rfl, ha⟩ := ‹_ ∧ _›
    split at h <;> cases h <;> constructor <;> exact ha
  · exact .cPutNext
  · obtain ⟨rfl, rfl⟩ := ‹_ ∧ _›; exact .cFinish
  · subst ‹ph = _›; exact .cAbandon
  · split at h <;> cases h
    · exact .cResetMore ‹_›
    · exact .cResetDone (Nat.le_of_not_lt ‹_›)
  · exact .wGet ‹_›
  · exact .wPutStop ‹_›
  · split at h
    · split at h <;> cases h
      · exact .wPutErr ‹_› ‹_› ‹_›
      · exact .wPutDead ‹_› ‹_› (Bool.eq_false_iff.mpr ‹_›)
    · cases h; exact .wPutVal ‹_› (Bool.eq_false_iff.mpr ‹_›)

theorem Step.worker_ph {c s l s'} (h : Step c s l s') (hw : isWorker l = true) : s'.ph = s.ph := by
  cases h with
  | wGet | wPutStop | wPutErr | wPutDead | wPutVal => rfl
  | _ => cases hw

theorem replays (c : Cfg) : Replays (step c) (accepts c) := ⟨fun _ => rfl, fun _ _ _ => rfl⟩

end Sedpack.Pool
