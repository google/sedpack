import SedpackProofs.PoolInv
/-! Consequences of the M-POOL invariant: exactly-once, deadlock-freedom, termination. -/
namespace Sedpack.Pool

def pref (c : Cfg) (q : Nat) : List Msg := (List.range q).map (chain c)

/-- the number of items among the `q` first elements of `chain` (`msgItems_pref`) -/
def lim (c : Cfg) (q : Nat) : Nat := match c.n with | none => q | some n => min q n

theorem pref_succ (c : Cfg) (q : Nat) : pref c (q+1) = pref c q ++ [chain c q] := by
  simp [pref, List.range_succ]

theorem chain_none (c : Cfg) (h : c.n = none) (k : Nat) : chain c k = .item k := by simp [chain, h]
theorem chain_some (c : Cfg) (n : Nat) (h : c.n = some n) (k : Nat) :
    chain c k = if k < n then .item k else .stop := by simp [chain, h]

theorem chain_lim (c : Cfg) (q : Nat) :
    (chain c q = .item q ∧ lim c q = q ∧ lim c (q + 1) = q + 1) ∨ (chain c q = .stop ∧ lim c (q + 1) = lim c q) := by
  unfold chain lim
  cases c.n with
  | none => exact .inl ⟨rfl, rfl, rfl⟩
  | some n =>
    by_cases h : q < n
    · exact .inl ⟨if_pos h, Nat.min_eq_left (Nat.le_of_lt h), Nat.min_eq_left h⟩
    · have h' := Nat.le_of_not_lt h
      exact .inr ⟨if_neg h, (Nat.min_eq_right (Nat.le_succ_of_le h')).trans (Nat.min_eq_right h').symm⟩

theorem lim_zero (c : Cfg) : lim c 0 = 0 := by unfold lim; cases c.n <;> simp

theorem msgIdx_pref (c : Cfg) (i q : Nat) : msgIdx i (pref c q) = if i < lim c q then 1 else 0 := by
  induction q with
  | zero => rw [lim_zero]; rfl
  | succ q ih =>
    rw [pref_succ, msgIdx_append, ih]
    rcases chain_lim c q with ⟨h1, h2, h3⟩ | ⟨h1, h2⟩ <;> rw [h1, h2]
    · rw [h3]
      by_cases hq : q = i
      · subst hq; simp [msgIdx]
      · have : i < q + 1 ↔ i < q := by omega
        simp only [msgIdx, hq, this, if_false, Nat.add_zero]
    · rfl

theorem msgItems_pref (c : Cfg) (q : Nat) : msgItems (pref c q) = lim c q := by
  induction q with
  | zero => rw [lim_zero]; rfl
  | succ q ih =>
    rw [pref_succ, msgItems_append, ih]
    rcases chain_lim c q with ⟨h1, h2, h3⟩ | ⟨h1, h2⟩ <;> rw [h1, h2]
    · exact h3.symm
    · rfl

theorem msgStops_pref (c : Cfg) (q : Nat) : msgStops (pref c q) = q - lim c q := by
  have h := msg_length (pref c q)
  rw [msgItems_pref, pref, List.length_map, List.length_range] at h
  exact Nat.eq_sub_of_add_eq' h

theorem lim_le_n {c : Cfg} {n : Nat} (hn : c.n = some n) (q : Nat) : lim c q ≤ n := by
  simp only [lim, hn]; exact Nat.min_le_right ..

theorem lim_lt {c : Cfg} {q : Nat} (h : lim c q < q) : ∃ n, c.n = some n ∧ lim c q = n := by
  cases hn : c.n with
  | none => simp only [lim, hn] at h; exact absurd h (Nat.lt_irrefl _)
  | some n => simp only [lim, hn] at h ⊢; exact ⟨n, rfl, by omega⟩

theorem taken_counting {c : Cfg} {s : St} (hi : Inv c s) (hc : counting s.ph = true) : taken c s = pref c s.q := by
  have h0 : resetK c s.ph = 0 := by cases hph : s.ph <;> simp [hph, counting, resetK] at hc ⊢
  have hq := hi.qle
  simp only [taken, sent, h0, List.replicate_zero, List.append_nil, List.length_map, List.length_range] at hq ⊢
  rw [← List.map_take, List.take_range, Nat.min_eq_left hq, pref]

/-- Normal end ⇒ exactly once: `waiting` with `active = 0` is where the `while` loop ends. -/
theorem finish_exact {c : Cfg} {s : St} (hT : 1 ≤ c.T) (hi : Inv c s) (hph : s.ph = .waiting) (hact : s.active = 0) :
    ∃ n, c.n = some n ∧ ∀ i, s.out.count i = if i < n then 1 else 0 := by
  have hc : counting s.ph = true := by rw [hph]; rfl
  have hcons := hi.cons hc
  have hpart := cnt_partition s.ws
  rw [hi.len] at hpart; rw [hact] at hcons
  -- `T` workers have stopped: nobody holds anything and no sentinel is left in `results`
  obtain ⟨hall, hrs, hholdStop, hholdItem⟩ : cnt isStopped s.ws = c.T ∧ resStops s.results = 0 ∧ cnt isHoldStop s.ws = 0 ∧
      cnt isHoldItem s.ws = 0 := by omega
  have hres : s.results = [] := (hi.tail hall).resolve_right fun h => by
    obtain ⟨ys, hy⟩ := List.getLast?_eq_some_iff.mp h
    rw [hy, resStops_append] at hrs; cases hrs
  have htk := taken_counting hi hc
  have hstops := hi.stops
  rw [htk, msgStops_pref, hall, hholdStop, Nat.zero_add] at hstops
  -- `T ≥ 1` sentinels were taken: the input is finite and exhausted
  obtain ⟨n, hn, hlim⟩ := lim_lt (Nat.lt_of_sub_pos (hstops ▸ hT))
  refine ⟨n, hn, fun i => ?_⟩
  have hix := hi.idx hc i
  have h0 : cnt (holdIdx i) s.ws = 0 := Nat.eq_zero_of_le_zero (hholdItem ▸ cnt_holdIdx_le i s.ws)
  rw [htk, msgIdx_pref, hlim, hres, hph, h0] at hix
  simpa only [resIdx, gotIdx, Nat.zero_add, Nat.add_zero] using hix

theorem wPut_enabled {c : Cfg} {s : St} {w : Nat} {m : Msg} (hfw : c.forward = true)
    (h : s.ws[w]? = some (.hold m)) : (step c s (.wPut w)).isSome = true := by
  rw [step, h]
  cases m with
  | stop => rfl
  | item i => dsimp only; rw [hfw]; cases c.fails i <;> rfl

theorem wGet_enabled {c : Cfg} {s : St} {w : Nat} (h : s.ws[w]? = some .idle) (hne : s.toProc ≠ []) :
    (step c s (.wGet w)).isSome = true := by
  rw [step, h]
  cases htp : s.toProc with
  | nil => exact absurd htp hne
  | cons m rest => rfl

/-- `hq`: `T` more messages were sent than items were taken and passed on. -/
theorem worker_enabled {c : Cfg} {s : St} (hfw : c.forward = true) (hi : Inv c s) {a : W} (ha : a ∈ s.ws)
    (hns : a ≠ .stopped) (hq : msgItems (taken c s) + c.T ≤ (sent c s).length + cnt isHoldItem s.ws) :
    ∃ l, (step c s l).isSome = true := by
  obtain ⟨w, hw⟩ := List.getElem?_of_mem ha
  match a, hns with
  | .hold m, _ => exact ⟨_, wPut_enabled hfw hw⟩
  | .idle, _ =>
    refine ⟨_, wGet_enabled hw fun he => ?_⟩
    rw [hi.shape, List.drop_eq_nil_iff] at he
    -- `he : |sent| ≤ q`, but `q` = items taken + sentinels taken, and a sentinel taken is held or its worker has
    -- returned: with one worker idle that is fewer than `T` minus the items held
    have hpart := cnt_partition s.ws
    have hidle := cnt_pos (f := isIdle) ha Nat.one_pos
    have hlen := (msg_length (taken c s)).trans (List.length_take_of_le hi.qle)
    have hst := hi.stops
    rw [hi.len] at hpart; omega
  | .dead, _ => exact absurd (cnt_pos (f := isDead) ha Nat.one_pos) (hi.nodead ▸ Nat.lt_irrefl 0)

/-- Deadlock freedom. -/
theorem progress (c : Cfg) (hfw : c.forward = true) (hT : 1 ≤ c.T) (hTP : c.T ≤ c.P) (s : St) (hi : Inv c s)
    (hnt : ¬ terminal s) : ∃ l, (step c s l).isSome = true := by
  cases hph : s.ph with
  | prefill => exact ⟨.cPut, by rw [step, if_pos hph]; rfl⟩
  | got i => exact ⟨.cPutNext, by rw [step, hph]; rfl⟩
  | resetting k w => exact ⟨.cReset, by rw [step, hph]; dsimp only; split <;> rfl⟩
  | waiting =>
    by_cases hact : s.active = 0
    · exact ⟨.cFinish, by rw [step, if_pos ⟨hph, hact⟩]; rfl⟩
    · have hpos : s.active > 0 := Nat.pos_of_ne_zero hact
      cases hres : s.results with
      | cons r rs => exact ⟨.cGet, by rw [step, if_pos ⟨hph, hpos⟩, hres]; cases r <;> rfl⟩
      | nil =>
        have hc : counting s.ph = true := by rw [hph]; rfl
        -- `active > 0` of the `T` workers have not reported their sentinel
        have hlt : cnt isStopped s.ws < c.T := by
          rw [hi.cons hc, hres, resStops, Nat.zero_add]; exact Nat.sub_lt hT hpos
        obtain ⟨a, ha, h0⟩ := exists_of_cnt_lt isStopped s.ws (hi.len ▸ hlt)
        refine worker_enabled hfw hi ha (by rintro rfl; cases h0) ?_
        -- every item taken was yielded or is held, and `p = P + |out| ≥ T + |out|` messages were sent
        have hit := hi.items hc
        have hinf := hi.inflight (.inl hph)
        have hsl : (sent c s).length = s.p := by simp [sent, hph, resetK]
        rw [hres, hph] at hit
        simp only [resItems, gotCnt] at hit; omega
  | fin why =>
    obtain ⟨a, ha, hns⟩ : ∃ a ∈ s.ws, a ≠ .stopped := Classical.byContradiction fun h =>
      hnt ⟨⟨why, hph⟩, fun w hw => Classical.byContradiction fun hne => h ⟨w, hw, hne⟩⟩
    refine worker_enabled hfw hi ha hns ?_
    -- the `T` sentinels of `finish_and_reset` were sent
    have hsent : c.T ≤ msgStops (sent c s) := by
      simp only [sent, msgStops_append, hph, resetK, msgStops_replicate c.T]; exact Nat.le_add_left ..
    exact Nat.le_trans (Nat.add_le_add (msgItems_take_le ..) hsent) (msg_length _ ▸ Nat.le_add_right ..)

def rank : Ph → Nat | .fin _ => 0 | .resetting _ _ => 1 | _ => 2

/-- inputs the consumer may still put on `to_process`: the rest of the `P + n` chain elements a
finite pass can consume, plus the `T` sentinels of `finish_and_reset` -/
def budget (c : Cfg) (n : Nat) (s : St) : Nat :=
  match s.ph with
  | .resetting k _ => c.T - k
  | .fin _ => 0
  | _ => (c.P + n - s.p) + c.T

/-- potential: every message moves forward through `unsent(5) > to_process(4) > held(3) >
results(2) > got(1) > consumed(0)`; plus the consumer's phase rank -/
def mu (c : Cfg) (n : Nat) (s : St) : Nat :=
  5 * budget c n s + 4 * s.toProc.length + 3 * (cnt isHoldItem s.ws + cnt isHoldStop s.ws)
    + 2 * s.results.length + gotCnt s.ph + rank s.ph

/-- `m - p` as a successor, so that `simp +arith` can cancel (for every put in `mu_decreases`) -/
theorem sub_eq_sub_succ_add_one {m p : Nat} (h : p < m) : m - p = m - (p + 1) + 1 :=
  (Nat.sub_add_cancel (Nat.sub_pos_of_lt h)).symm

/-- Termination.  `hn`: the input is finite, or the consumer has left its loop. -/
theorem mu_decreases {c : Cfg} {n : Nat} {s s' : St} {l : Lbl} (hn : counting s.ph = true → c.n = some n)
    (hi : Inv c s) (hs : step c s l = some s') : mu c n s' < mu c n s := by
  cases Step.of_step hs with
  | cPut | cPutLast =>
    -- an element goes from unsent (5) to `to_process` (4); `p < P` in `prefill`, so `P + n - p` really drops
    simp only [mu, budget, sub_eq_sub_succ_add_one (Nat.lt_add_right n (hi.pre rfl).1)]
    simp +arith only [gotCnt, rank, List.length_append, List.length_singleton]
  | cGetStop | cGetVal | cGetErr =>
    -- a result leaves `results` (weight 2) for `got` (1) or for good; `cGetErr`: the budget becomes `T - 0`
    simp +arith only [mu, budget, gotCnt, rank, List.length_cons, Nat.sub_zero]
  | cFinish | cAbandon | cResetDone =>
    -- the rank drops, and the budget does not grow: it becomes `T - 0`, or `0` after the reset
    simp +arith only [mu, budget, gotCnt, rank, Nat.sub_zero]
  | cResetMore hk =>
    simp only [mu, budget, sub_eq_sub_succ_add_one hk]
    simp +arith only [gotCnt, rank, List.length_append, List.length_singleton]
  | @cPutNext _ _ _ _ p q =>  -- the rule's implicit arguments are `tp rs ws i p q a out`
    -- `p = P + |out|` and `|out| < items taken ≤ n`: the budget is not used up
    have hit := hi.items rfl
    rw [taken_counting hi rfl, msgItems_pref] at hit
    have := lim_le_n (hn rfl) q
    have hinf := hi.inflight (.inr ⟨_, rfl⟩)
    have hlt : p < c.P + n := by simp only [gotCnt] at hit hinf; omega
    simp only [mu, budget, sub_eq_sub_succ_add_one hlt]
    simp +arith only [gotCnt, rank, List.length_append, List.length_singleton]
  | wGet hw =>
    obtain ⟨-, -, hHoldStop, hHoldItem, -⟩ := cnt_get (m := ‹Msg›) hw rfl
    -- the message taken is an item or a sentinel: one more holder (`msgItems [m] + msgStops [m] = 1`, `msg_length`)
    simp only [mu, budget, hHoldStop, hHoldItem, Nat.add_add_add_comm _ (msgItems _), msg_length, List.length_cons,
      List.length_nil]
    simp +arith only
  | wPutStop hw =>
    obtain ⟨-, -, hHoldStop, hHoldItem, -⟩ := cnt_putStop hw rfl
    simp +arith only [mu, budget, hHoldItem, hHoldStop, List.length_append, List.length_singleton]
  | wPutErr hw | wPutVal hw =>
    obtain ⟨-, -, hHoldStop, hHoldItem, -⟩ := cnt_putItem hw rfl
    simp +arith only [mu, budget, hHoldStop, hHoldItem, List.length_append, List.length_singleton]
  | wPutDead hw =>
    have hHoldStop := cnt_set isHoldStop _ _ _ .dead hw
    have hHoldItem := cnt_set isHoldItem _ _ _ .dead hw
    simp only [isHoldStop, isHoldItem, Nat.add_zero] at hHoldStop hHoldItem
    simp +arith only [mu, budget, hHoldStop, ← hHoldItem]

/-- normal end of the pass: the consumer left its loop because all workers reported a sentinel -/
def normalEnd (s : St) : Prop := (∃ k, s.ph = .resetting k 0) ∨ s.ph = .fin 0

def whyOf : Ph → Nat | .resetting _ w => w | .fin w => w | _ => 0

theorem Step.frozen {c s l s'} (h : Step c s l s') (hnc : counting s.ph = false) : counting s'.ph = false := by
  cases h with
  | cResetMore | cResetDone => rfl
  | wGet | wPutStop | wPutErr | wPutDead | wPutVal => exact hnc
  | _ => cases hnc

theorem after_loop {c : Cfg} {s : St} (hfw : c.forward = true) (hT : 1 ≤ c.T) (hTP : c.T ≤ c.P) (h : Reach c s)
    (hnc : counting s.ph = false) :
    whyOf s.ph ≤ 2 ∧ (whyOf s.ph = 0 → ∃ n, c.n = some n ∧ s.out.Perm (List.range n)) := by
  induction h with
  | init => cases hnc
  | @step s s' l hr hs ih =>
    have hi := inv_reach hfw (Nat.le_trans hT hTP) hr
    cases Step.of_step hs with
    | cGetErr => exact ⟨Nat.le_succ 1, nofun⟩
    | cAbandon => exact ⟨Nat.le_refl 2, nofun⟩
    | cFinish =>
      -- the only normal end: the loop's condition `active > 0` fails, and `finish_exact` applies
      obtain ⟨n, hn, hcount⟩ := finish_exact hT hi rfl rfl
      exact ⟨Nat.zero_le 2, fun _ => ⟨n, hn, List.perm_iff_count.mpr fun i => by rw [hcount i, List.count_range]⟩⟩
    -- the pass had ended before: neither the reason nor the output changes
    | cResetMore | cResetDone => exact ih rfl
    | wGet | wPutStop | wPutErr | wPutDead | wPutVal => exact ih hnc
    | _ => cases hnc

theorem normalEnd_perm (c : Cfg) (hfw : c.forward = true) (hT : 1 ≤ c.T) (hTP : c.T ≤ c.P) (s : St) (h : Reach c s)
    (hend : normalEnd s) : ∃ n, c.n = some n ∧ s.out.Perm (List.range n) := by
  rcases hend with ⟨k, hk⟩ | hk <;> exact (after_loop hfw hT hTP h (by rw [hk]; rfl)).2 (by rw [hk]; rfl)

end Sedpack.Pool
