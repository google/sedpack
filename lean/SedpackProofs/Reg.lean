import SedpackModel.Reg
import SedpackProofs.Replay
/-! The invariant of M-REG under fresh keys: live handles own their registry entries exclusively. -/
namespace Sedpack.Reg

theorem Store.set_same (r : Store) (k : Nat) (v : Option (List Nat)) : r.set k v k = v := if_pos rfl

theorem Store.set_other (r : Store) {k k' : Nat} (v : Option (List Nat)) (h : k' ≠ k) : r.set k v k' = r k' := if_neg h

structure Inv (s : St) : Prop where
  /-- whatever a handle (live or gone) has been handed is a prefix of what it was created over, and a live handle's registry
  entry holds exactly the rest -/
  own : ∀ h, ∃ rem, s.got h ++ rem = s.items h ∧ ∀ k, s.key h = some k → s.reg k = some rem
  uniq : ∀ h h' k, s.key h = some k → s.key h' = some k → h' = h

theorem inv_init : Inv {} := ⟨fun _ => ⟨[], rfl, nofun⟩, nofun⟩

/-- Every step acts for one handle `h0` on one registry key `k` that `h0` holds or that is fresh.  Then no other handle holds `k`,
so every other handle keeps what it owns, and the invariant survives as soon as `h0` owns its entry afterwards (its key, if it
has one, being `k`). -/
theorem Inv.frame {s s' : St} (hi : Inv s) (h0 k : Nat) (v : Option (List Nat)) (hk : s.key h0 = some k ∨ s.reg k = none)
    (hreg : s'.reg = s.reg.set k v)
    (hrest : ∀ h, h ≠ h0 → s'.key h = s.key h ∧ s'.items h = s.items h ∧ s'.got h = s.got h)
    (hown : ∃ rem, s'.got h0 ++ rem = s'.items h0 ∧ ∀ k', s'.key h0 = some k' → k' = k ∧ v = some rem) : Inv s' := by
  have hother : ∀ h k', h ≠ h0 → s'.key h = some k' → s.key h = some k' ∧ k' ≠ k := fun h k' e hk' => by
    rw [(hrest h e).1] at hk'
    refine ⟨hk', fun ek => ?_⟩
    subst ek
    rcases hk with hk | hk
    · exact e (hi.uniq h0 h k' hk hk')
    · obtain ⟨_, -, h2⟩ := hi.own h
      exact absurd ((h2 k' hk').symm.trans hk) nofun
  obtain ⟨rem0, hown1, hown2⟩ := hown
  constructor
  · intro h
    by_cases e : h = h0
    · exact e ▸ ⟨rem0, hown1, fun k' hk' => by obtain ⟨rfl, rfl⟩ := hown2 k' hk'; rw [hreg, Store.set_same]⟩
    · obtain ⟨rem, h1, h2⟩ := hi.own h
      obtain ⟨e1, e2, e3⟩ := hrest h e
      exact ⟨rem, by rw [e2, e3, h1], fun k' hk' =>
        have ⟨a, b⟩ := hother h k' e hk'; by rw [hreg, Store.set_other _ _ b, h2 k' a]⟩
  · intro h h' k' hk' hk''
    by_cases e : h = h0 <;> by_cases e' : h' = h0
    · rw [e, e']
    · exact absurd (hown2 k' (e ▸ hk')).1 (hother h' k' e' hk'').2
    · exact absurd (hown2 k' (e' ▸ hk'')).1 (hother h k' e hk').2
    · exact hi.uniq h h' k' (hother h k' e hk').1 (hother h' k' e' hk'').1

/-- `hf` is what `Fresh s (l :: _)` asks of the label `l`. -/
theorem inv_step {s s' : St} {l : Lbl} (hi : Inv s)
    (hf : match l with | .new h k _ => s.reg k = none ∧ s.key h = none ∧ s.got h = [] ∧ s.items h = [] | _ => True)
    (h : step s l = some s') : Inv s' := by
  revert h
  fun_cases step s l <;> intro h <;> cases h
  case case1 h0 k its =>                  -- `new`: `h0` takes the fresh key `k`
    exact hi.frame h0 k (some its) (.inr hf.1) rfl (fun _ e => ⟨if_neg e, if_neg e, if_neg e⟩)
      ⟨its, by simp, fun k' hk' => ⟨by simpa using hk'.symm, rfl⟩⟩
  case case3 h0 k hk0 x r hr =>           -- `next` with an item left: `h0` is handed the head of its entry
    obtain ⟨rem, h1, h2⟩ := hi.own h0
    cases (h2 k hk0).symm.trans hr
    exact hi.frame h0 k (some r) (.inl hk0) rfl (fun _ e => ⟨rfl, rfl, if_neg e⟩)
      ⟨r, by simpa using h1, fun k' hk' => ⟨Option.some.inj (hk'.symm.trans hk0), rfl⟩⟩
  case case4 => exact hi                  -- `next` at the end of the entry: nothing changes
  case case7 h0 k hk0 =>                  -- `exit`: `h0` gives up `k`
    obtain ⟨rem, h1, -⟩ := hi.own h0
    exact hi.frame h0 k none (.inl hk0) rfl (fun _ e => ⟨if_neg e, rfl, rfl⟩) ⟨rem, h1, by simp⟩

theorem replays : Replays step run := ⟨fun _ => rfl, fun _ _ _ => rfl⟩

theorem run_inv (ls : List Lbl) (s s' : St) (hi : Inv s) (hf : Fresh s ls) (h : run s ls = some s') : Inv s' :=
  (replays.induction (P := fun ls s => Inv s ∧ Fresh s ls)
    (fun l _ s s' ⟨hi, hf⟩ hs => ⟨inv_step hi hf.1 hs, by have := hf.2; rwa [hs] at this⟩) ls ⟨hi, hf⟩ h).1

end Sedpack.Reg
