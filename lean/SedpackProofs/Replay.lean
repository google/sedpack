/-! Replaying a label list through a partial step function.  Every model defines its own `accepts`; its two
defining equations hold by `rfl` (`⟨fun _ => rfl, fun _ _ _ => rfl⟩ : Replays step accepts`), so what is proved here
about `Replays` holds of each of them. -/
namespace Sedpack

structure Replays {σ ι : Type} (step : σ → ι → Option σ) (acc : σ → List ι → Option σ) : Prop where
  nil : ∀ s, acc s [] = some s
  cons : ∀ s l ls, acc s (l :: ls) = (step s l).bind (acc · ls)

namespace Replays
variable {σ ι : Type} {step : σ → ι → Option σ} {acc : σ → List ι → Option σ} (h : Replays step acc)
include h

/-- `P` sees the labels still to come -/
theorem induction {P : List ι → σ → Prop} (hP : ∀ l ls s s', P (l :: ls) s → step s l = some s' → P ls s') :
    ∀ (tr : List ι) {s s' : σ}, P tr s → acc s tr = some s' → P [] s'
  | [], s, _, hp, ha => Option.some.inj ((h.nil s).symm.trans ha) ▸ hp
  | l :: ls, s, _, hp, ha => by
    rw [h.cons, Option.bind_eq_some_iff] at ha
    obtain ⟨s1, hs, ha⟩ := ha
    exact induction hP ls (hP l ls s s1 hp hs) ha

theorem keeps {P : σ → Prop} (hP : ∀ {s l s'}, P s → step s l = some s' → P s') {tr : List ι} {s s' : σ} :
    P s → acc s tr = some s' → P s' :=
  h.induction (P := fun _ => P) (fun _ _ _ _ => hP) tr

theorem measure {P : σ → Prop} {μ : σ → Nat} (hP : ∀ {s l s'}, P s → step s l = some s' → P s' ∧ μ s' < μ s)
    {tr : List ι} {s s' : σ} (hp : P s) (ha : acc s tr = some s') : P s' ∧ tr.length + μ s' ≤ μ s :=
  -- `ls`: the labels still owed; equality at the start (`ls = tr`), each step pays one label and at least one unit of `μ`
  h.induction (P := fun ls t => P t ∧ tr.length + μ t ≤ μ s + ls.length)
    (fun _ _ _ _ ⟨hp, hle⟩ hs => ⟨(hP hp hs).1, by have := (hP hp hs).2; rw [List.length_cons] at hle; omega⟩)
    tr ⟨hp, Nat.le_of_eq (Nat.add_comm ..)⟩ ha

theorem of_prefix {pre tr : List ι} {s s' : σ} (hp : pre <+: tr) (ha : acc s tr = some s') : ∃ sp, acc s pre = some sp := by
  obtain ⟨t, rfl⟩ := hp
  induction pre generalizing s with
  | nil => exact ⟨s, h.nil s⟩
  | cons l pre ih =>
    rw [List.cons_append, h.cons, Option.bind_eq_some_iff] at ha
    obtain ⟨s1, hs, ha⟩ := ha
    rw [h.cons, hs]
    exact ih ha

end Replays
end Sedpack
