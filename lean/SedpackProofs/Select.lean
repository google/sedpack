import SedpackModel.Select
/-! M-SEL: each stage returns a sublist of its input; `select_eq_ok` reduces a successful `select` to its three stages. -/
namespace Sedpack.Sel

theorem limitLoop_sublist (n : Nat) (l : List ShardI) (c : Nat → Nat) : (limitLoop n l c).Sublist l := by
  fun_induction limitLoop n l c with
  | case1 => exact .slnil
  | case2 s _ _ _ _ _ ih => exact ih.cons_cons s      -- `s` is kept
  | case3 s _ _ _ _ _ ih => exact ih.cons s           -- `s` is dropped

theorem limitLoop_filter (n m : Nat) (l : List ShardI) (c : Nat → Nat) :
    (limitLoop n l c).filter (fun s => s.md = m) = (l.filter (fun s => s.md = m)).take (n - c m) := by
  fun_induction limitLoop n l c with
  | case1 => simp
  | case2 s rest c c1 c' hle ih =>
    -- `s` is kept: if its metadata is `m`, one more of the `n - c m` places is taken
    by_cases hm : s.md = m
    · subst hm
      simp [ih, c', c1, List.take_cons (Nat.sub_pos_of_lt hle), Nat.sub_add_eq]
    · simp [hm, ih, c', Ne.symm hm]
  | case3 s rest c c1 c' hle ih =>
    -- `s` is dropped: the places for its metadata value are used up
    by_cases hm : s.md = m
    · subst hm
      have h0 : n ≤ c s.md := Nat.le_of_lt_succ (Nat.not_le.1 hle)
      simp [ih, c', c1, Nat.sub_eq_zero_of_le h0, Nat.sub_eq_zero_of_le (Nat.le_succ_of_le h0)]
    · simp [hm, ih, c', Ne.symm hm]

theorem limitLoop_all (n : Nat) (l : List ShardI) (c : Nat → Nat) (h : ∀ m, c m + l.length ≤ n) : limitLoop n l c = l := by
  induction l generalizing c with
  | nil => rfl
  | cons s rest ih =>
    have hs : c s.md + 1 + rest.length ≤ n := Nat.add_right_comm .. ▸ h s.md
    rw [limitLoop, if_pos (Nat.le_trans (Nat.le_add_right ..) hs), ih]
    intro m
    split
    · exact hs
    · exact Nat.le_trans (Nat.add_le_add_left (Nat.le_succ _) _) (h m)

theorem limitLoop_ne_nil {n : Nat} {l : List ShardI} {c : Nat → Nat} (hc : ∀ m, c m < n) (hl : l ≠ []) : limitLoop n l c ≠ [] := by
  cases l with
  | nil => exact absurd rfl hl
  | cons s rest => simp [limitLoop, Nat.succ_le_of_lt (hc s.md)]

theorem pySliceTo_prefix (xs : List α) (k : Int) : pySliceTo xs k <+: xs := by
  unfold pySliceTo; split <;> exact List.take_prefix _ _

theorem stageFilter_some (infos : List ShardI) (p : ShardI → Bool) : stageFilter infos (some p) = infos.filter p := rfl

theorem stageFilter_sublist (infos : List ShardI) (f : Option (ShardI → Bool)) : (stageFilter infos f).Sublist infos := by
  cases f
  · exact .refl _
  · exact List.filter_sublist

theorem stageFirstK_sublist (l : List ShardI) (k : Option Int) : (stageFirstK l k).Sublist l := by
  unfold stageFirstK
  split
  · exact .refl _
  · split
    · exact .refl _
    · exact (pySliceTo_prefix l _).sublist

theorem stageLimit_sublist (l : List ShardI) (n : Option Nat) : (stageLimit l n).Sublist l := by
  unfold stageLimit
  split
  · exact .refl _
  · split
    · exact .refl _
    · exact limitLoop_sublist _ l _

theorem stageFirstK_pos {k : Nat} (hk : 1 ≤ k) (l : List ShardI) : stageFirstK l (some (k : Int)) = l.take k := by
  simp [stageFirstK, pySliceTo, Nat.ne_of_gt hk]

theorem stageLimit_pos {n : Nat} (hn : 1 ≤ n) (l : List ShardI) : stageLimit l (some n) = limitLoop n l (fun _ => 0) := by
  simp [stageLimit, Nat.ne_of_gt hn]

variable {infos : List ShardI} {f : Option (ShardI → Bool)} {k : Option Int} {n : Option Nat}

theorem select_eq_ok {out : List ShardI} :
    select infos f k n = .ok out ↔ stageFilter infos f ≠ [] ∧ stageLimit (stageFirstK (stageFilter infos f) k) n = out := by
  unfold select
  split <;> simp [*]

theorem select_sublist_filter {out : List ShardI} (h : select infos f k n = .ok out) : out.Sublist (stageFilter infos f) :=
  (select_eq_ok.1 h).2 ▸ (stageLimit_sublist _ n).trans (stageFirstK_sublist _ k)

end Sedpack.Sel
