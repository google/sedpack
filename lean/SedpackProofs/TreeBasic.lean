import SedpackModel.Tree
import SedpackProofs.Lists
/-! Well-formedness, exactness and reachability for the shard-list tree; `FS.set`; what `groupBy` guarantees. -/
namespace Sedpack.Tree

structure WFL (d : Dir) (l : SList) : Prop where
  sum : l.n = sumF l.files + sumN l.kids
  shape : ∀ c ∈ l.kids, ∃ y, c.dir = d ++ [y]
  nodup : (l.kids.map (·.dir)).Nodup

def WF (fs : FS) : Prop := ∀ d l, fs d = some l → WFL d l

def DepthOK (fs : FS) (B : Nat) : Prop := ∀ d l, fs d = some l → ∀ c ∈ l.kids, c.dir.length ≤ B

/-- **Exactness** of the sub-tree summarised by a `ShardListInfo`. -/
inductive Exact (H : SList → Nat) (fs : FS) : Kid → Prop
  | mk {k : Kid} {l : SList} : fs k.dir = some l → k.hash = H l → k.n = l.n →
      k.shards = l.files.length + sumS l.kids → WFL k.dir l →
      (∀ c ∈ l.kids, Exact H fs c) → Exact H fs k

def filesAt (fs : FS) (x : Dir) : List Shard := ((fs x).map (·.files)).getD []

def kidsAt (fs : FS) (y : Dir) : List Kid := ((fs y).map (·.kids)).getD []

/-- all that reachability depends on -/
def subs (fs : FS) (y : Dir) : List Dir := (kidsAt fs y).map (·.dir)

variable {fs fs' : FS} {d x a b : Dir} {l : SList} {c : Kid} {B : Nat}

theorem wfl_default (d : Dir) : WFL d {} := ⟨rfl, nofun, .nil⟩

theorem length_snoc (d : Dir) (g : Nat) : (d ++ [g]).length = d.length + 1 := List.length_append

theorem snoc_inj {g g' : Nat} {t t' : Dir} (e : d ++ g :: t = d ++ g' :: t') : g = g' :=
  (List.cons.inj (List.append_cancel_left e)).1

theorem prefix_snoc_ne {g g' : Nat} (hne : g ≠ g') (h : (d ++ [g]) <+: x) : ¬ (d ++ [g']) <+: x := by
  rintro ⟨t', ht'⟩
  obtain ⟨t, ht⟩ := h
  rw [← ht', List.append_assoc, List.append_assoc] at ht
  exact hne (snoc_inj ht)

theorem not_snoc_prefix (d : Dir) (g : Nat) : ¬ (d ++ [g]) <+: d :=
  fun h => Nat.not_succ_le_self _ (length_snoc d g ▸ h.length_le)

theorem WFL.prefix (h : WFL d l) (hc : c ∈ l.kids) : d <+: c.dir := by
  obtain ⟨y, hy⟩ := h.shape c hc
  exact hy ▸ List.prefix_append _ _

theorem WFL.kid_not_prefix (h : WFL d l) (hc : c ∈ l.kids) : ¬ c.dir <+: d := by
  obtain ⟨y, hy⟩ := h.shape c hc
  exact hy ▸ not_snoc_prefix d y

theorem WFL.kids_disjoint {c' : Kid} (h : WFL d l) (hc : c ∈ l.kids) (hc' : c' ∈ l.kids) (hne : c.dir ≠ c'.dir)
    (hx : c.dir <+: x) : ¬ c'.dir <+: x := by
  obtain ⟨y, hy⟩ := h.shape c hc
  obtain ⟨y', hy'⟩ := h.shape c' hc'
  rw [hy] at hx hne
  rw [hy'] at hne ⊢
  exact prefix_snoc_ne (fun e => hne (e ▸ rfl)) hx

theorem WFL.fuel {fuel : Nat} (h : WFL d l) (hc : c ∈ l.kids) (hf : B < fuel + 1 + d.length) :
    B < fuel + c.dir.length := by
  obtain ⟨y, hy⟩ := h.shape c hc
  rw [hy, length_snoc, Nat.add_comm d.length, ← Nat.add_assoc]; exact hf

/-- induction over an exact sub-tree walked with fuel that suffices for its depth: at every record the fuel is a successor,
and what is left suffices for the children -/
@[elab_as_elim]
theorem Exact.rec_fuel {H : SList → Nat} {motive : Nat → Kid → Prop} (hd : DepthOK fs B)
    (mk : ∀ {fuel : Nat} {k : Kid} {l : SList}, fs k.dir = some l → k.hash = H l → k.n = l.n →
      k.shards = l.files.length + sumS l.kids → WFL k.dir l → (∀ c ∈ l.kids, motive fuel c) → motive (fuel + 1) k)
    {k : Kid} (hex : Exact H fs k) : ∀ {fuel : Nat}, k.dir.length ≤ B → B < fuel + k.dir.length → motive fuel k := by
  induction hex with
  | @mk k l hget hh hn hs hwf _ ih =>
    intro fuel hle hf
    cases fuel with
    | zero => omega
    | succ fuel => exact mk hget hh hn hs hwf fun c hc => ih c hc (hd k.dir l hget c hc) (hwf.fuel hc hf)

theorem set_same (fs : FS) (d : Dir) (l : SList) : (fs.set d l) d = some l := if_pos rfl
theorem set_other (fs : FS) (d x : Dir) (l : SList) (h : x ≠ d) : (fs.set d l) x = fs x := if_neg h

theorem set_ne_none (fs : FS) (d : Dir) (l : SList) {x : Dir} (h : fs x ≠ none) : fs.set d l x ≠ none := by
  unfold FS.set; split
  · nofun
  · exact h

theorem set_noop (fs : FS) (d : Dir) (l : SList) (h : fs d = some l) : fs.set d l = fs := by
  funext x; unfold FS.set; split
  · subst x; exact h.symm
  · rfl

theorem set_getD (fs : FS) (d : Dir) (h : fs d ≠ none) : fs.set d ((fs d).getD {}) = fs := by
  obtain ⟨l, hl⟩ := Option.ne_none_iff_exists'.mp h
  rw [hl]; exact set_noop fs d l hl

theorem forall_set {P : Dir → SList → Prop} {d0 : Dir} {l0 : SList} (h : ∀ d l, fs d = some l → P d l)
    (h0 : P d0 l0) : ∀ d l, (fs.set d0 l0) d = some l → P d l := by
  intro d l hd
  by_cases hx : d = d0
  · rw [hx, set_same] at hd; cases hd; exact hx ▸ h0
  · exact h d l (set_other fs d0 d l0 hx ▸ hd)

theorem kidsAt_set (fs : FS) (d x : Dir) (l : SList) : kidsAt (fs.set d l) x = if x = d then l.kids else kidsAt fs x := by
  unfold kidsAt FS.set; split <;> rfl

theorem filesAt_set (fs : FS) (d x : Dir) (l : SList) : filesAt (fs.set d l) x = if x = d then l.files else filesAt fs x := by
  unfold filesAt FS.set; split <;> rfl

theorem subs_set (fs : FS) (d x : Dir) (l : SList) : subs (fs.set d l) x = if x = d then l.kids.map (·.dir) else subs fs x := by
  rw [subs, kidsAt_set]; split <;> rfl

theorem getD_kids (fs : FS) (d : Dir) : ((fs d).getD {}).kids = kidsAt fs d := by rw [kidsAt]; cases fs d <;> rfl
theorem getD_files (fs : FS) (d : Dir) : ((fs d).getD {}).files = filesAt fs d := by rw [filesAt]; cases fs d <;> rfl

theorem kidsAt_some (h : fs d = some l) : kidsAt fs d = l.kids := by rw [kidsAt, h]; rfl
theorem filesAt_some (h : fs d = some l) : filesAt fs d = l.files := by rw [filesAt, h]; rfl

theorem filesAt_congr (h : fs' x = fs x) : filesAt fs' x = filesAt fs x := by rw [filesAt, filesAt, h]
theorem subs_congr (h : fs' x = fs x) : subs fs' x = subs fs x := by rw [subs, subs, kidsAt, kidsAt, h]

theorem ne_none_of_mem_filesAt {s : Shard} (h : s ∈ filesAt fs x) : fs x ≠ none :=
  fun h0 => by rw [filesAt, h0] at h; cases h

theorem mem_subs (h : fs d = some l) (hc : c ∈ l.kids) : c.dir ∈ subs fs d :=
  List.mem_map_of_mem (kidsAt_some h ▸ hc)

theorem mem_subs_getD (hc : c ∈ ((fs d).getD {}).kids) : c.dir ∈ subs fs d :=
  List.mem_map_of_mem (getD_kids fs d ▸ hc)

theorem of_mem_subs (hb : b ∈ subs fs d) : ∃ l c, fs d = some l ∧ c ∈ l.kids ∧ c.dir = b := by
  obtain ⟨c, hc, rfl⟩ := List.mem_map.mp hb
  cases hd : fs d with
  | none => rw [kidsAt, hd] at hc; cases hc
  | some l => exact ⟨l, c, rfl, kidsAt_some hd ▸ hc, rfl⟩

theorem WF.getD (h : WF fs) (d : Dir) : WFL d ((fs d).getD {}) := by
  cases hd : fs d with
  | none => exact wfl_default d
  | some l => exact h d l hd

theorem WF.subs (h : WF fs) (hb : b ∈ subs fs d) : ∃ y, b = d ++ [y] := by
  obtain ⟨l, c, hl, hc, rfl⟩ := of_mem_subs hb; exact (h d l hl).shape c hc

theorem DepthOK.subs (h : DepthOK fs B) (hb : b ∈ subs fs d) : b.length ≤ B := by
  obtain ⟨l, c, hl, hc, rfl⟩ := of_mem_subs hb; exact h d l hl c hc

theorem getD_snoc (d : Dir) (y : Nat) (t : Dir) : (d ++ y :: t).getD d.length 0 = y := by
  rw [List.getD_eq_getElem?_getD, List.getElem?_append_right (Nat.le_refl _), Nat.sub_self]; rfl

theorem prefix_snoc_getD {t : Dir} (h : d <+: t) (hl : d.length < t.length) : (d ++ [t.getD d.length 0]) <+: t := by
  obtain ⟨r, rfl⟩ := h
  cases r with
  | nil => rw [List.append_nil] at hl; exact absurd hl (Nat.lt_irrefl _)
  | cons y ys => exact ⟨ys, by rw [getD_snoc, List.append_assoc]; rfl⟩

theorem Exact.frame {H : SList → Nat} {fs fs' : FS} {k : Kid} (h : Exact H fs k)
    (hf : ∀ x, k.dir <+: x → fs' x = fs x) : Exact H fs' k := by
  induction h with
  | @mk k l hget hh hn hs hwf _ ih =>
    refine Exact.mk (l := l) ((hf k.dir (List.prefix_refl _)).trans hget) hh hn hs hwf ?_
    · exact fun c hc => ih c hc fun x hx => hf x ((hwf.prefix hc).trans hx)

inductive Reaches (fs : FS) : Dir → Dir → Prop
  | refl (d : Dir) : Reaches fs d d
  | step {d x : Dir} {c : Kid} {l : SList} : fs d = some l → c ∈ l.kids → Reaches fs c.dir x → Reaches fs d x

theorem Reaches.edge (hb : b ∈ subs fs d) (h : Reaches fs b x) : Reaches fs d x := by
  obtain ⟨l, c, hl, hc, rfl⟩ := of_mem_subs hb; exact .step hl hc h

theorem Reaches.trans {fs : FS} {a b c : Dir} (h1 : Reaches fs a b) (h2 : Reaches fs b c) : Reaches fs a c := by
  induction h1 with
  | refl d => exact h2
  | @step d x k l hget hk _ ih => exact Reaches.step hget hk (ih h2)

theorem Exact.reaches_ne_none {H : SList → Nat} {fs : FS} {k : Kid} (h : Exact H fs k) {x : Dir} :
    Reaches fs k.dir x → fs x ≠ none := by
  induction h generalizing x with
  | @mk k l hget _ _ _ _ _ ih =>
    intro hx
    cases hx with
    | refl => rw [hget]; nofun
    | step hget2 hc hcx => cases hget.symm.trans hget2; exact ih _ hc hcx

theorem Reaches.prefix {fs : FS} (hwf : WF fs) {d x : Dir} (h : Reaches fs d x) : d <+: x := by
  induction h with
  | refl d => exact List.prefix_refl _
  | @step d x c l hget hc _ ih => exact ((hwf d l hget).prefix hc).trans ih

theorem Reaches.mono (hk : ∀ y, subs fs y ⊆ subs fs' y) (h : Reaches fs a x) : Reaches fs' a x := by
  induction h with
  | refl d => exact .refl d
  | step hl hc _ ih => exact .edge (hk _ (mem_subs hl hc)) ih

/-- `b`: the target of the last edge of the path that `fs` does not have -/
theorem Reaches.split {P : Dir → Prop} (hn : ∀ y, ∀ b ∈ subs fs' y, b ∈ subs fs y ∨ P b) (h : Reaches fs' a x) :
    Reaches fs a x ∨ ∃ b, P b ∧ Reaches fs' a b ∧ Reaches fs b x := by
  induction h with
  | refl d => exact .inl (.refl d)
  | @step d x c l hl hc _ ih =>
    have hb := mem_subs hl hc
    rcases ih with h | ⟨b, hP, h1, h2⟩
    · rcases hn d _ hb with h0 | hP
      · exact .inl (.edge h0 h)
      · exact .inr ⟨c.dir, hP, .edge hb (.refl _), h⟩
    · exact .inr ⟨b, hP, .edge hb h1, h2⟩

/- The cases of `fun_induction insertGroup`: `case1` the table is empty, `case2` its first entry has the key, `case3` its
first entry has another key (`hne`) and the insertion goes on in the rest. -/
theorem insertGroup_keys (g : List (Nat × List Kid)) (key : Nat) (u : Kid) :
    (insertGroup g key u).map (·.1) = if key ∈ g.map (·.1) then g.map (·.1) else g.map (·.1) ++ [key] := by
  fun_induction insertGroup g key u with
  | case1 => rfl
  | case2 => simp only [List.map_cons, List.mem_cons, true_or, if_true]
  | case3 k us rest key u hne ih =>
    simp only [List.map_cons, List.mem_cons, ih, Ne.symm hne, false_or]
    split <;> rfl

theorem mem_insertGroup (g : List (Nat × List Kid)) (key : Nat) (u : Kid) (h : ∀ p ∈ g, p.2 ≠ []) :
    ∀ p ∈ insertGroup g key u, p.2 ≠ [] ∧ ∀ e ∈ p.2, (e = u ∧ p.1 = key) ∨ ∃ vs0, (p.1, vs0) ∈ g ∧ e ∈ vs0 := by
  fun_induction insertGroup g key u with
  | case1 =>
    intro p hp
    rw [List.mem_singleton.mp hp]
    exact ⟨List.cons_ne_nil _ _, fun e he => .inl ⟨List.mem_singleton.mp he, rfl⟩⟩
  | case2 us rest key u =>
    refine List.forall_mem_cons.mpr ⟨⟨List.append_ne_nil_of_right_ne_nil _ (List.cons_ne_nil _ _), fun e he => ?_⟩, fun p hp => ?_⟩
    · rcases List.mem_append.mp he with he | he
      · exact .inr ⟨us, List.mem_cons_self, he⟩
      · exact .inl ⟨List.mem_singleton.mp he, rfl⟩
    · exact ⟨h p (List.mem_cons_of_mem _ hp), fun e he => .inr ⟨_, List.mem_cons_of_mem _ hp, he⟩⟩
  | case3 k us rest key u hne ih =>
    refine List.forall_mem_cons.mpr ⟨⟨h _ List.mem_cons_self, fun e he => .inr ⟨_, List.mem_cons_self, he⟩⟩, fun p hp => ?_⟩
    have := ih (fun p hp => h p (List.mem_cons_of_mem _ hp)) p hp
    exact ⟨this.1, fun e he => (this.2 e he).imp_right fun ⟨vs0, h0, he0⟩ => ⟨vs0, List.mem_cons_of_mem _ h0, he0⟩⟩

theorem cover_insertGroup (g : List (Nat × List Kid)) (key : Nat) (u : Kid) :
    (∃ vs, (key, vs) ∈ insertGroup g key u ∧ u ∈ vs) ∧
    ∀ k vs0, (k, vs0) ∈ g → ∃ vs, (k, vs) ∈ insertGroup g key u ∧ vs0 ⊆ vs := by
  fun_induction insertGroup g key u with
  | case1 key u => exact ⟨⟨[u], List.mem_cons_self, List.mem_cons_self⟩, fun _ _ h => nomatch h⟩
  | case2 us rest key u =>
    refine ⟨⟨us ++ [u], List.mem_cons_self, List.mem_append_right _ List.mem_cons_self⟩, fun k vs0 h => ?_⟩
    rcases List.mem_cons.mp h with h | h
    · cases h; exact ⟨us ++ [u], List.mem_cons_self, List.subset_append_left _ _⟩
    · exact ⟨vs0, List.mem_cons_of_mem _ h, fun _ h => h⟩
  | case3 k us rest key u hne ih =>
    refine ⟨ih.1.imp fun vs h => ⟨List.mem_cons_of_mem _ h.1, h.2⟩, fun k' vs0 h => ?_⟩
    rcases List.mem_cons.mp h with h | h
    · cases h; exact ⟨us, List.mem_cons_self, fun _ h => h⟩
    · exact (ih.2 k' vs0 h).imp fun vs h => ⟨List.mem_cons_of_mem _ h.1, h.2⟩

/-- `g` is the `defaultdict` after grouping `us` by path component `depth` -/
structure GInv (depth : Nat) (us : List Kid) (g : List (Nat × List Kid)) : Prop where
  nonempty : ∀ k vs, (k, vs) ∈ g → vs ≠ []
  nodup : (g.map (·.1)).Nodup
  sound : ∀ k vs, (k, vs) ∈ g → ∀ e ∈ vs, e ∈ us ∧ e.dir.getD depth 0 = k
  cover : ∀ e ∈ us, ∃ vs, (e.dir.getD depth 0, vs) ∈ g ∧ e ∈ vs

theorem groupBy_inv (depth : Nat) (us : List Kid) : GInv depth us (groupBy depth us) := by
  have key : ∀ (rest done : List Kid) (g : List (Nat × List Kid)), GInv depth done g →
      GInv depth (done ++ rest) (rest.foldl (fun g u => insertGroup g (u.dir.getD depth 0) u) g) := by
    intro rest
    induction rest with
    | nil => intro done g h; rwa [List.append_nil]
    | cons u us ih =>
      intro done g h
      rw [List.append_cons]
      have hm := mem_insertGroup g (u.dir.getD depth 0) u fun p hp => h.nonempty p.1 p.2 hp
      have hc := cover_insertGroup g (u.dir.getD depth 0) u
      refine ih _ _ ⟨fun k vs hp => (hm _ hp).1, ?_, fun k vs hp e he => ?_, fun e he => ?_⟩
      · rw [insertGroup_keys]
        split
        · exact h.nodup
        · next hk =>
          exact List.nodup_append.mpr ⟨h.nodup, List.pairwise_singleton _ _, fun a ha b hb e => hk (List.mem_singleton.mp hb ▸ e ▸ ha)⟩
      · rcases (hm _ hp).2 e he with ⟨rfl, hk⟩ | ⟨vs0, h0, he0⟩
        · exact ⟨List.mem_append_right _ List.mem_cons_self, hk.symm⟩
        · exact ⟨List.mem_append_left _ (h.sound k vs0 h0 e he0).1, (h.sound k vs0 h0 e he0).2⟩
      · rcases List.mem_append.mp he with he | he
        · obtain ⟨vs0, h0, he0⟩ := h.cover e he
          exact (hc.2 _ vs0 h0).imp fun vs hv => ⟨hv.1, hv.2 he0⟩
        · exact List.mem_singleton.mp he ▸ hc.1
  exact key us [] [] ⟨nofun, .nil, nofun, nofun⟩

end Sedpack.Tree
