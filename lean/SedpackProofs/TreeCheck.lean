import SedpackProofs.TreeSession
/-! `Dataset.check`: both passes succeed on exact trees; pass 1 fails on every detectably modified list file; what pass 2
accepts is there with the recorded digest (so a modified shard file makes it fail). -/
namespace Sedpack.Tree

inductive ShardsOK (Hf : Nat → Nat) (fs : FS) (files : Files) : Kid → Prop
  | mk {k : Kid} {l : SList} : fs k.dir = some l →
      (∀ s ∈ l.files, ∃ c, files k.dir s.file = some c ∧ Hf c = s.hash) →
      (∀ c ∈ l.kids, ShardsOK Hf fs files c) → ShardsOK Hf fs files k

theorem checkLists_complete (H : SList → Nat) (B fuel : Nat) (fs : FS) (k : Kid) (hex : Exact H fs k)
    (hd : DepthOK fs B) (hle : k.dir.length ≤ B) (hf : B < fuel + k.dir.length) : checkLists H fuel fs k = true := by
  refine hex.rec_fuel hd (fun hget hh _ _ _ ih => ?_) hle hf
  simp only [checkLists, hget, hh, beq_self_eq_true, Bool.true_and, List.all_eq_true]
  exact ih

theorem checkShards_complete (H : SList → Nat) (Hf : Nat → Nat) (B fuel : Nat) (fs : FS) (files : Files) (k : Kid)
    (hex : Exact H fs k) (hok : ShardsOK Hf fs files k) (hd : DepthOK fs B) (hle : k.dir.length ≤ B)
    (hf : B < fuel + k.dir.length) : checkShards Hf fuel fs files k.dir = true := by
  revert hok
  refine hex.rec_fuel hd (fun hget _ _ _ _ ih hok => ?_) hle hf
  cases hok with
  | @mk _ l2 hget2 hfiles hk2 =>
    cases hget.symm.trans hget2
    simp only [checkShards, hget, Bool.and_eq_true, List.all_eq_true]
    refine ⟨fun s hs' => ?_, fun c hc => ih c hc (hk2 c hc)⟩
    obtain ⟨c, hc1, hc2⟩ := hfiles s hs'
    simp only [hc1, hc2, beq_self_eq_true]

/-- a list file `x` counts as *detectably modified* when it is gone or its new content has a
digest different from the committed one (the no-collision premise for this specific pair) -/
def ListModified (H : SList → Nat) (fs fs' : FS) (x : Dir) : Prop :=
  fs' x ≠ fs x ∧ ∀ l l', fs x = some l → fs' x = some l' → H l' ≠ H l

def ListsTame (H : SList → Nat) (fs fs' : FS) (d : Dir) : Prop :=
  ∀ x, Reaches fs d x → fs' x = fs x ∨ ListModified H fs fs' x

theorem checkLists_detects (H : SList → Nat) : ∀ (fuel : Nat) (fs fs' : FS) (k : Kid), Exact H fs k →
    ListsTame H fs fs' k.dir → (∃ x, Reaches fs k.dir x ∧ fs' x ≠ fs x) → checkLists H fuel fs' k = false := by
  intro fuel
  induction fuel with
  | zero => intro fs fs' k _ _ _; rfl
  | succ fuel ih =>
    intro fs fs' k hex htame hmod
    obtain ⟨x, hx, hne⟩ := hmod
    cases hex with
    | @mk _ l hget hh hn hs hwf hkids =>
      rcases htame k.dir (.refl _) with hsame | hm
      · -- this file is as committed: the walk continues into the committed children
        cases hx with
        | refl => exact absurd hsame hne
        | @step _ _ c l2 hget2 hc hcx =>
          cases hget.symm.trans hget2
          have := ih fs fs' c (hkids c hc) (fun y hy => htame y (.step hget hc hy)) ⟨x, hcx, hne⟩
          simp only [checkLists, hsame, hget, Bool.and_eq_false_iff, List.all_eq_false]
          exact .inr ⟨c, hc, by simp only [this]; decide⟩
      · -- this very file was modified: digest mismatch (or file missing) before it is even parsed
        cases hfs' : fs' k.dir with
        | none => simp only [checkLists, hfs']
        | some l' => simp only [checkLists, hfs', hh, beq_eq_false_iff_ne.mpr (hm.2 l l' hget hfs'), Bool.false_and]

def ShardTame (Hf : Nat → Nat) (files files' : Files) (d : Dir) (s : Shard) : Prop :=
  files' d s.file = files d s.file ∨ (∀ c, files' d s.file = some c → Hf c ≠ s.hash)

theorem checkShards_sound (Hf : Nat → Nat) : ∀ (fuel : Nat) (fs : FS) (files : Files) (d : Dir),
    checkShards Hf fuel fs files d = true → ∀ x, Reaches fs d x →
      ∃ l, fs x = some l ∧ ∀ s ∈ l.files, ∃ c, files x s.file = some c ∧ Hf c = s.hash := by
  intro fuel
  induction fuel with
  | zero => intro fs files d h; cases h
  | succ fuel ih =>
    intro fs files d h x hx
    cases hfd : fs d with
    | none => simp only [checkShards, hfd] at h; cases h
    | some l =>
      simp only [checkShards, hfd, Bool.and_eq_true, List.all_eq_true] at h
      cases hx with
      | refl =>
        refine ⟨l, hfd, fun s hs => ?_⟩
        have := h.1 s hs
        cases hf : files d s.file with
        | none => simp only [hf] at this; cases this
        | some c => exact ⟨c, rfl, by simpa only [hf, beq_iff_eq] using this⟩
      | @step _ _ c l' hget hc hcx => cases hfd.symm.trans hget; exact ih fs files c.dir (h.2 c hc) x hcx

end Sedpack.Tree
