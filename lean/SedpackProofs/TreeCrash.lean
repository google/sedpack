import SedpackModel.TreeCrash
import SedpackProofs.TreeEnum
/-! Crash points: every prefix of a valid install sequence lies between the committed store and the final one.  The
effect-emitting functions of a writing call refine the plain ones (`X_fst`) and emit valid sequences (`Emits`): the leaf writes
step by step (`leaf_stepOK`), the merges by `Merges.emits`. -/
namespace Sedpack.Tree

theorem mono_shardsOf {B fuel : Nat} {fs fs' : FS} (hi : SInv B fs) (hi' : SInv B fs') (hm : Mono fs fs') {d : Dir}
    (hd : d.length ≤ B) (hf : B < fuel + d.length) (sh : Shard) (h : sh ∈ shardsOf fuel fs d) : sh ∈ shardsOf fuel fs' d := by
  obtain ⟨x, hx, hs⟩ := (mem_shardsOf B fuel fs d hi.wf hi.depth hd hf sh).mp h
  exact (mem_shardsOf B fuel fs' d hi'.wf hi'.depth hd hf sh).mpr ⟨x, hm.reach d x hx, (hm.files x).subset hs⟩

theorem valid_crash_point (B fuel : Nat) (fs : FS) (ins : List Install) (hv : Valid B fs ins) (hi : SInv B fs) (k : Nat)
    (d : Dir) (hd : d.length ≤ B) (hf : B < fuel + d.length) :
    SInv B (applyInstalls fs (ins.take k)) ∧
    (∀ sh, sh ∈ shardsOf fuel fs d → sh ∈ shardsOf fuel (applyInstalls fs (ins.take k)) d) ∧
    (∀ sh, sh ∈ shardsOf fuel (applyInstalls fs (ins.take k)) d → sh ∈ shardsOf fuel (applyInstalls fs ins) d) := by
  obtain ⟨hv1, hv2⟩ := valid_take B fs ins k hv
  obtain ⟨hi1, hm1⟩ := valid_sinv_mono B _ fs hv1 hi
  obtain ⟨hi2, hm2⟩ := valid_sinv_mono B _ _ hv2 hi1
  rw [← applyInstalls_append, List.take_append_drop] at hi2 hm2
  exact ⟨hi1, mono_shardsOf hi hi1 hm1 hd hf, mono_shardsOf hi1 hi2 hm2 hd hf⟩

/-- `SInv` is a premise inside the definition: a valid sequence keeps it (`valid_sinv`), so `Emits.append` needs no further
conditions -/
def Emits (B : Nat) (fs fs' : FS) (ins : List Install) : Prop :=
  SInv B fs → Valid B fs ins ∧ fs' = applyInstalls fs ins

section
variable {B : Nat} {fs fs₁ fs₂ : FS} {i : Install} {a b : List Install}

theorem Emits.of_sinv (h : SInv B fs → Emits B fs fs₂ a) : Emits B fs fs₂ a := fun hi => h hi hi

theorem Emits.valid (h : Emits B fs fs₂ a) (hi : SInv B fs) : Valid B fs a := (h hi).1

theorem Emits.store (h : Emits B fs fs₂ a) (hi : SInv B fs) : fs₂ = applyInstalls fs a := (h hi).2

theorem Emits.nil : Emits B fs fs [] := fun _ => ⟨trivial, rfl⟩

theorem Emits.cons (hs : SInv B fs → StepOK B fs i) (h : Emits B (fs.set i.1 i.2) fs₂ a) : Emits B fs fs₂ (i :: a) := fun hi =>
  have ⟨hv, he⟩ := h (step_sinv B fs i (hs hi) hi)
  ⟨⟨hs hi, hv⟩, he⟩

theorem Emits.append (h₁ : Emits B fs fs₁ a) (h₂ : Emits B fs₁ fs₂ b) : Emits B fs fs₂ (a ++ b) := fun hi => by
  obtain ⟨v₁, rfl⟩ := h₁ hi
  obtain ⟨v₂, rfl⟩ := h₂ (valid_sinv B a fs v₁ hi)
  exact ⟨(valid_append B a b fs).mpr ⟨v₁, v₂⟩, (applyInstalls_append fs a b).symm⟩

end

/-- what `Crash.step (.install d doc)` demands of the new document, in M-TREE's terms: `StepOK` read from store to store
(`fs` before the call, `fs'` after it) instead of from a store to the document installed -/
structure InstallOK (fs fs' : FS) (d : Dir) : Prop where
  written : ∃ l', fs' d = some l'
  kidsExist : ∀ l', fs' d = some l' → ∀ c ∈ l'.kids, fs' c.dir ≠ none ∧ c.dir.length = d.length + 1
  filesKept : filesAt fs' d = filesAt fs d
  kidsKept : ∀ l', fs' d = some l' → ∀ c ∈ kidsAt fs d, c.dir ∈ l'.kids.map (·.dir)

/-- children first, documents only grow; install by install it is `Merges.valid` -/
theorem merge_installOK (H : SList → Nat) (B fuel : Nat) (fs : FS) (d : Dir) (us : List Kid)
    (hfuel : B < fuel + d.length) (hpre : Pre B fs d us) : InstallOK fs (merge H fuel fs d us).1 d := by
  obtain ⟨h, l', hl', _⟩ := merge_merges H B fuel fs d us hfuel hpre
  refine ⟨⟨l', hl'⟩, fun l'' hl'' c hc => ?_, h.files d, fun l'' hl'' c hc => ?_⟩ <;> cases hl'.symm.trans hl''
  · -- the returned info is exact, hence every child record points to an existing document
    obtain ⟨y, hy⟩ := (h.wf d l' hl').shape c hc
    have hd : (merge H fuel fs d us).2.dir = d := h.dir
    exact ⟨(h.exact _ (.head _)).reaches_ne_none (hd.symm ▸ .step hl' hc (.refl _)), hy ▸ length_snoc d y⟩
  · exact kidsAt_some hl' ▸ h.kept d (List.mem_map_of_mem hc)

theorem Merges.emits {H : SList → Nat} {B : Nat} {fs fs' : FS} {rs : List (Dir × List Kid)} {ks : List Kid} {ins : List Install}
    (h : Merges H B fs rs fs' ks ins) : Emits B fs fs' ins := fun _ => ⟨h.valid, h.store.symm⟩

theorem appendShards_eq_set (fs : FS) (d : Dir) (new : List Shard) : appendShards fs d new = fs.set d (leafDoc fs d new) := rfl

theorem leafDoc_files (fs : FS) (d : Dir) (new : List Shard) : (leafDoc fs d new).files = filesAt fs d ++ new :=
  getD_files fs d ▸ rfl

theorem leafDoc_nil (fs : FS) (d : Dir) : leafDoc fs d [] = (fs d).getD {} := by simp [leafDoc, sumF]

theorem leaf_stepOK (B : Nat) (fs : FS) (d : Dir) (new : List Shard) (hi : SInv B fs) : StepOK B fs (d, leafDoc fs d new) := by
  have hdoc : appendShards fs d new d = some (leafDoc fs d new) := appendShards_eq_set fs d new ▸ set_same fs d _
  refine ⟨appendShards_wf fs d new hi.wf d _ hdoc, appendShards_depth fs d new B hi.depth d _ hdoc, fun c hc => ?_,
    leafDoc_files fs d new ▸ List.prefix_append _ _, fun c hc => List.mem_map_of_mem (getD_kids fs d ▸ hc)⟩
  obtain ⟨l, c', hl, hc', h⟩ := of_mem_subs (mem_subs_getD hc)
  exact h ▸ hi.nd d l hl c' hc'

theorem rewrite_stepOK (B : Nat) (fs : FS) (d : Dir) (hi : SInv B fs) : StepOK B fs (d, (fs d).getD {}) :=
  leafDoc_nil fs d ▸ leaf_stepOK B fs d [] hi

theorem emits_rewrites {B : Nat} {fs : FS} (dirs : List Dir) (h : ∀ d ∈ dirs, fs d ≠ none) :
    Emits B fs fs (dirs.map fun d => (d, (fs d).getD {})) := by
  induction dirs with
  | nil => exact .nil
  | cons d rest ih =>
    refine .cons (rewrite_stepOK B fs d) ?_
    rw [set_getD fs d (h d (.head _))]
    exact ih fun x hx => h x (.tail _ hx)

theorem applyWritesE_fst (se : Session) : ∀ fs : FS, (applyWritesE fs se).1 = applyWrites fs se := by
  induction se with
  | nil => exact fun _ => rfl
  | cons w rest ih => exact fun fs => ih _

theorem applyWritesE_emits {B : Nat} (se : Session) : ∀ fs : FS, Emits B fs (applyWritesE fs se).1 (applyWritesE fs se).2 := by
  induction se with
  | nil => exact fun _ => .nil
  | cons w rest ih => exact fun fs => .cons (leaf_stepOK B fs w.1 w.2) (ih _)

theorem mem_dedupDirs (x : Dir) : ∀ l : List Dir, x ∈ dedupDirs l ↔ x ∈ l := by
  intro l
  induction l with
  | nil => rfl
  | cons a as ih => rw [dedupDirs, mem_cons_filter_ne, ih, List.mem_cons]

theorem fillersE_fst (fl : List Session) : ∀ fs : FS, (fillersE fs fl).1 = applyWrites fs fl.flatten := by
  induction fl with
  | nil => exact fun _ => rfl
  | cons f rest ih => intro fs; rw [List.flatten_cons, applyWrites_append, ← applyWritesE_fst f]; exact ih _

theorem fillersE_emits {B : Nat} (fl : List Session) : ∀ fs : FS, Emits B fs (fillersE fs fl).1 (fillersE fs fl).2 := by
  induction fl with
  | nil => exact fun _ => .nil
  | cons f rest ih =>
    intro fs
    -- on exit the filler re-installs the lists it wrote: they exist, so nothing changes
    have hre : Emits B (applyWritesE fs f).1 _ _ := emits_rewrites (dedupDirs (f.map (·.1))) fun d hd => by
      obtain ⟨w, hw, rfl⟩ := List.mem_map.mp ((mem_dedupDirs d _).mp hd)
      exact applyWritesE_fst f fs ▸ applyWrites_written f fs w hw
    exact ((applyWritesE_emits f fs).append hre).append (ih _)

theorem mergeSplitsE_emits (H : SList → Nat) {B : Nat} (fuel : Nat) (hfuel : B < fuel + 1) (hB : 1 ≤ B) (dirs : List Dir)
    (hdirs : ∀ d ∈ dirs, d ≠ [] ∧ d.length ≤ B) (ss : List Nat) (hss : ss.Nodup) (ds : DS) :
    Emits B ds.fs (mergeSplitsE H fuel dirs ss ds).1.fs (mergeSplitsE H fuel dirs ss ds).2 := .of_sinv fun hi =>
  have ⟨_, hm, _⟩ := mergeSplits_merges H B fuel hfuel hB dirs hdirs ss ds hss hi.wf hi.depth
  mergeSplitsE_fst H fuel dirs ss ds ▸ hm.emits

theorem multiSessionE_fst (H : SList → Nat) (fuel : Nat) (ds : DS) (fl : List Session) :
    (multiSessionE H fuel ds fl).1 = session H fuel ds fl.flatten := by
  rw [multiSessionE, mergeSplitsE_fst, fillersE_fst]; rfl

theorem multiSessionE_spec (H : SList → Nat) (B fuel : Nat) (hfuel : B < fuel + 1) (hB : 1 ≤ B) (ds : DS) (fl : List Session)
    (hse : ∀ w ∈ fl.flatten, w.1 ≠ [] ∧ w.1.length ≤ B) (hi : SInv B ds.fs) :
    (multiSessionE H fuel ds fl).1 = session H fuel ds fl.flatten ∧
    (session H fuel ds fl.flatten).fs = applyInstalls ds.fs (multiSessionE H fuel ds fl).2 ∧
    Valid B ds.fs (multiSessionE H fuel ds fl).2 := by
  have : Emits B ds.fs (multiSessionE H fuel ds fl).1.fs (multiSessionE H fuel ds fl).2 :=
    (fillersE_emits fl ds.fs).append (mergeSplitsE_emits H fuel hfuel hB _ (List.forall_mem_map.mpr hse) _ (nodup_dedup _) ⟨_, ds.splits⟩)
  exact ⟨multiSessionE_fst H fuel ds fl, multiSessionE_fst H fuel ds fl ▸ this.store hi, this.valid hi⟩

theorem sessionE_spec (H : SList → Nat) (B fuel : Nat) (hfuel : B < fuel + 1) (hB : 1 ≤ B) (ds : DS) (se : Session)
    (hse : ∀ w ∈ se, w.1 ≠ [] ∧ w.1.length ≤ B) (hi : SInv B ds.fs) :
    (sessionE H fuel ds se).1 = session H fuel ds se ∧
    (session H fuel ds se).fs = applyInstalls ds.fs (sessionE H fuel ds se).2 ∧
    Valid B ds.fs (sessionE H fuel ds se).2 := by
  have := multiSessionE_spec H B fuel hfuel hB ds [se]
  rw [List.flatten_singleton] at this
  exact this hse hi

/-- a rewrite only ever targets a list that exists at that moment (a filler rewrites lists it has written) -/
def RewOK : FS → List WEff → Prop
  | _, [] => True
  | fs, .close d sh :: r => RewOK (appendShards fs d [sh]) r
  | fs, .rewrite d :: r => fs d ≠ none ∧ RewOK fs r

theorem workersE_emits {B : Nat} (ws : List WEff) : ∀ fs : FS, Emits B fs (workersE fs ws).1 (workersE fs ws).2 := by
  induction ws with
  | nil => exact fun _ => .nil
  | cons e r ih =>
    intro fs
    cases e with
    | close d sh => exact .cons (leaf_stepOK B fs d [sh]) (ih _)
    | rewrite d => exact .cons (rewrite_stepOK B fs d) (ih _)

theorem workersE_fst (ws : List WEff) : ∀ fs : FS, RewOK fs ws → (workersE fs ws).1 = applyWrites fs (closesOf ws) := by
  induction ws with
  | nil => exact fun _ _ => rfl
  | cons e r ih =>
    intro fs hr
    cases e with
    | close d sh => exact ih _ hr
    | rewrite d =>
      show (workersE (fs.set d ((fs d).getD {})) r).1 = _
      rw [set_getD fs d hr.1]
      exact ih fs hr.2

theorem mem_closesOf {ws : List WEff} {w : Dir × List Shard} (h : w ∈ closesOf ws) : ∃ sh, w.2 = [sh] ∧ WEff.close w.1 sh ∈ ws := by
  induction ws with
  | nil => cases h
  | cons e r ih =>
    cases e with
    | close d sh =>
      rcases List.mem_cons.mp h with rfl | h
      · exact ⟨sh, rfl, .head _⟩
      · exact (ih h).imp fun _ h => ⟨h.1, .tail _ h.2⟩
    | rewrite d => exact (ih h).imp fun _ h => ⟨h.1, .tail _ h.2⟩

theorem concurrentCallE_spec (H : SList → Nat) (B fuel : Nat) (hfuel : B < fuel + 1) (hB : 1 ≤ B) (ds : DS) (ws : List WEff)
    (hse : ∀ w ∈ closesOf ws, w.1 ≠ [] ∧ w.1.length ≤ B) (hi : SInv B ds.fs) :
    Valid B ds.fs (concurrentCallE H fuel ds ws).2 ∧
    (RewOK ds.fs ws → (concurrentCallE H fuel ds ws).1 = session H fuel ds (closesOf ws) ∧
      (session H fuel ds (closesOf ws)).fs = applyInstalls ds.fs (concurrentCallE H fuel ds ws).2) := by
  have : Emits B ds.fs (concurrentCallE H fuel ds ws).1.fs (concurrentCallE H fuel ds ws).2 :=
    (workersE_emits ws ds.fs).append (mergeSplitsE_emits H fuel hfuel hB _ (List.forall_mem_map.mpr hse) _ (nodup_dedup _) ⟨_, ds.splits⟩)
  refine ⟨this.valid hi, fun hr => ?_⟩
  have hE : (concurrentCallE H fuel ds ws).1 = session H fuel ds (closesOf ws) := by
    rw [concurrentCallE, mergeSplitsE_fst, workersE_fst ws _ hr]; rfl
  exact ⟨hE, hE ▸ this.store hi⟩

theorem crash_points {H : SList → Nat} {B fuel : Nat} (hfuel : B < fuel + 1) (hB : 1 ≤ B) {ds : DS} {se : Session}
    (hse : ∀ w ∈ se, w.1 ≠ [] ∧ w.1.length ≤ B) (hg : Good H B ds) (hi : SInv B ds.fs) (hl : Linked ds.fs)
    {ins : List Install} (hv : Valid B ds.fs ins) (hst : (session H fuel ds se).fs = applyInstalls ds.fs ins) (k s : Nat) :
    let c := applyInstalls ds.fs (ins.take k)
    SInv B c ∧ (∀ sh ∈ shardsOf fuel ds.fs [s], sh ∈ shardsOf fuel c [s]) ∧
      ∀ sh ∈ shardsOf fuel c [s], sh ∈ shardsOf fuel ds.fs [s] ∨ ∃ w ∈ se, w.1.headD 0 = s ∧ sh ∈ w.2 := by
  obtain ⟨h1, h2, h3⟩ := valid_crash_point B fuel ds.fs ins hv hi k [s] hB hfuel
  exact ⟨h1, h2, fun sh h => (session_adds_exactly H B fuel hfuel hB ds se hse hg hl s sh).mp (hst ▸ h3 sh h)⟩

end Sedpack.Tree
