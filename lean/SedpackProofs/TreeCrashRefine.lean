import SedpackProofs.TreeCrash
import SedpackProofs.Crash
/-! M-TREE with effects refines M-CRASH: a valid install sequence, read as M-CRASH `install` labels, is accepted by M-CRASH
from the abstraction of the store, and ends in the abstraction of the resulting store. -/
namespace Sedpack.Tree
open Sedpack

def toDoc (l : SList) : Crash.Doc := { files := l.files.map (·.file), kids := l.kids.map (·.dir) }

/-- the M-CRASH state a store stands for: `C` are the shard files completely written and hashed, `R` the roots named by the
installed description -/
def absSt (fs : FS) (C : List Nat) (R : List Dir) : Crash.St :=
  { closed := C, opened := [], docs := fun d => (fs d).map toDoc, roots := R, tmps := 0 }

def toLbl (i : Install) : Crash.Lbl := .install i.1 (toDoc i.2)

/-- the document M-CRASH compares a new one with is the abstraction of `filesAt` / `kidsAt` -/
theorem absSt_old (fs : FS) (C : List Nat) (R : List Dir) (d : Dir) :
    ((absSt fs C R).docs d).getD ⟨[], []⟩ = ⟨(filesAt fs d).map (·.file), (kidsAt fs d).map (·.dir)⟩ := by
  unfold filesAt kidsAt
  show ((fs d).map toDoc).getD _ = _
  cases fs d <;> rfl

theorem step_refines (B : Nat) (fs : FS) (i : Install) (C : List Nat) (R : List Dir) (hs : StepOK B fs i)
    (hc : ∀ f ∈ i.2.files, f.file ∈ C) :
    Crash.step (absSt fs C R) (toLbl i) = some (absSt (fs.set i.1 i.2) C R) := by
  have hdocs : (fun x => if x = i.1 then some (toDoc i.2) else (fs x).map toDoc) = fun x => ((fs.set i.1 i.2) x).map toDoc := by
    funext x; unfold FS.set; split <;> rfl
  refine (Crash.Step.complete (.install ?hfiles ?hkids ?holdf ?holdk ?hdepth)).trans
    (congrArg (fun f => some { absSt fs C R with docs := f }) hdocs)
  · exact List.forall_mem_map.mpr hc
  · exact List.forall_mem_map.mpr fun k hk => Option.isSome_map.trans (Option.isSome_iff_ne_none.mpr (hs.kidsExist k hk))
  · rw [absSt_old]; exact (hs.files.map _).subset
  · rw [absSt_old]; exact List.forall_mem_map.mpr hs.kids
  · exact List.forall_mem_map.mpr fun k hk => let ⟨y, hy⟩ := hs.wfl.shape k hk; hy ▸ length_snoc i.1 y

/-- closedness is asked of the final store only: a document of the sequence lists no more than the final store does at the same
place (`Mono.files` of the rest of the sequence) -/
theorem valid_accepted (B : Nat) (C : List Nat) (R : List Dir) : ∀ (ins : List Install) (fs : FS), Valid B fs ins →
    (∀ x, ∀ sh ∈ filesAt (applyInstalls fs ins) x, sh.file ∈ C) →
    Crash.accepts (absSt fs C R) (ins.map toLbl) = some (absSt (applyInstalls fs ins) C R) := by
  intro ins
  induction ins with
  | nil => exact fun _ _ _ => rfl
  | cons i rest ih =>
    intro fs ⟨hs, hr⟩ hC
    have hm := (valid_mono B rest _ hr).files i.1
    rw [filesAt, set_same] at hm
    rw [List.map_cons, Crash.accepts, step_refines B fs i C R hs fun f hf => hC i.1 f (hm.subset hf)]
    exact ih _ hr hC

end Sedpack.Tree
