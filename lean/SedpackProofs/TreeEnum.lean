import SedpackProofs.TreeSession
/-! What iteration enumerates (`shardsOf`) in terms of reachability; no shard file name is enumerated twice; a session adds
exactly what it wrote. -/
namespace Sedpack.Tree

theorem shardsOf_reaches {fs : FS} {sh : Shard} : ∀ (fuel : Nat) (d : Dir), sh ∈ shardsOf fuel fs d →
    ∃ x, Reaches fs d x ∧ sh ∈ filesAt fs x := by
  intro fuel
  induction fuel with
  | zero => exact fun _ h => nomatch h
  | succ fuel ih =>
    intro d h
    cases hfd : fs d with
    | none => simp only [shardsOf, hfd] at h; cases h
    | some l =>
      simp only [shardsOf, hfd, List.mem_append, List.mem_flatMap] at h
      rcases h with h | ⟨c, hc, h⟩
      · exact ⟨d, .refl _, by rwa [filesAt_some hfd]⟩
      · exact (ih c.dir h).imp fun x hx => ⟨.step hfd hc hx.1, hx.2⟩

theorem mem_shardsOf (B : Nat) : ∀ (fuel : Nat) (fs : FS) (d : Dir), WF fs → DepthOK fs B → d.length ≤ B → B < fuel + d.length →
    ∀ sh, sh ∈ shardsOf fuel fs d ↔ ∃ x, Reaches fs d x ∧ sh ∈ filesAt fs x := by
  intro fuel
  induction fuel with
  | zero => intro fs d _ _ h1 h2; omega
  | succ fuel ih =>
    intro fs d hwf hdep hle hf sh
    refine ⟨shardsOf_reaches _ d, fun ⟨x, hx, hsh⟩ => ?_⟩
    cases hx with
    | refl =>
      obtain ⟨l, hfd⟩ := Option.ne_none_iff_exists'.mp (ne_none_of_mem_filesAt hsh)
      rw [filesAt_some hfd] at hsh
      simp only [shardsOf, hfd, List.mem_append]; exact .inl hsh
    | @step _ _ c l hget hc hcx =>
      simp only [shardsOf, hget, List.mem_append, List.mem_flatMap]
      exact .inr ⟨c, hc, (ih fs c.dir hwf hdep (hdep d l hget c hc) ((hwf d l hget).fuel hc hf) sh).mpr ⟨x, hcx, hsh⟩⟩

/-- no leftovers of crashed sessions -/
def Linked (fs : FS) : Prop := ∀ x, fs x ≠ none → Reaches fs [x.headD 0] x

structure NamesOK (fs : FS) : Prop where
  dist : ∀ x y (s t : Shard), s ∈ filesAt fs x → t ∈ filesAt fs y → s.file = t.file → x = y
  loc : ∀ x, ((filesAt fs x).map (·.file)).Nodup

/-- a name determines the list it is recorded in; the child records of a list name distinct directories one level below it, so
their sub-trees are disjoint and none contains the list itself -/
theorem shardsOf_names_nodup {fs : FS} (hwf : WF fs) (hn : NamesOK fs) : ∀ (fuel : Nat) (d : Dir),
    ((shardsOf fuel fs d).map (·.file)).Nodup := by
  intro fuel
  induction fuel with
  | zero => exact fun _ => .nil
  | succ fuel ih =>
    intro d
    cases hfd : fs d with
    | none => simp only [shardsOf, hfd]; exact .nil
    | some l =>
      have hw := hwf d l hfd
      have below : ∀ c ∈ l.kids, ∀ s ∈ shardsOf fuel fs c.dir, ∃ x, c.dir <+: x ∧ s ∈ filesAt fs x := fun c _ s hs =>
        (shardsOf_reaches fuel c.dir hs).imp fun x hx => ⟨hx.1.prefix hwf, hx.2⟩
      have hfiles := filesAt_some hfd
      simp only [shardsOf, hfd]
      refine List.pairwise_map.mpr (List.pairwise_append.mpr ⟨hfiles ▸ List.pairwise_map.mp (hn.loc d),
        List.pairwise_flatMap.mpr ⟨fun c _ => List.pairwise_map.mp (ih c.dir), ?_⟩, fun s hs t ht e => ?_⟩)
      · refine (List.pairwise_map.mp hw.nodup).imp_of_mem fun {c c'} hc hc' hne s hs t ht e => ?_
        obtain ⟨x, hx, hsx⟩ := below c hc s hs
        obtain ⟨x', hx', htx⟩ := below c' hc' t ht
        rw [← hn.dist x x' s t hsx htx e] at hx'
        exact hw.kids_disjoint hc hc' hne hx hx'
      · obtain ⟨c, hc, ht⟩ := List.mem_flatMap.mp ht
        obtain ⟨x, hx, htx⟩ := below c hc t ht
        rw [← hn.dist d x s t (hfiles ▸ hs) htx e] at hx
        exact hw.kid_not_prefix hc hx

theorem shardsOf_nodup {fs : FS} (hwf : WF fs) (hn : NamesOK fs) (fuel : Nat) (d : Dir) : (shardsOf fuel fs d).Nodup :=
  nodup_of_map (·.file) _ (shardsOf_names_nodup hwf hn fuel d)

/-- shard file names come from `uuid4` -/
structure FreshSession (fs : FS) (se : Session) : Prop where
  unused : ∀ w ∈ se, ∀ s ∈ w.2, ∀ x, ∀ t ∈ filesAt fs x, s.file ≠ t.file
  distinct : ((se.flatMap (·.2)).map (·.file)).Nodup

theorem entry_of_name (se : Session) (hnd : ((se.flatMap (·.2)).map (·.file)).Nodup) :
    ∀ w ∈ se, ∀ w' ∈ se, ∀ s ∈ w.2, ∀ t ∈ w'.2, s.file = t.file → w.1 = w'.1 := by
  rw [List.map_flatMap] at hnd
  have hp := (List.pairwise_flatMap.mp hnd).2
  refine List.Pairwise.forall_of_forall_of_flip (fun _ _ _ _ _ _ _ => rfl) (hp.imp ?_) (hp.imp ?_)
  · exact fun h s hs t ht e => absurd e (h _ (List.mem_map_of_mem hs) _ (List.mem_map_of_mem ht))
  · exact fun h s hs t ht e => absurd e.symm (h _ (List.mem_map_of_mem ht) _ (List.mem_map_of_mem hs))

theorem namesOK_applyWrites (fs : FS) (se : Session) (hn : NamesOK fs) (hf : FreshSession fs se) : NamesOK (applyWrites fs se) := by
  have hnew : ∀ {x y s t}, s ∈ filesAt fs x → t ∈ newAt se y → s.file ≠ t.file := fun hs ht e => by
    obtain ⟨w, hw, _, htw⟩ := mem_newAt.mp ht
    exact hf.unused w hw _ htw _ _ hs e.symm
  constructor
  · intro x y s t hs ht hst
    rw [applyWrites_files] at hs ht
    rcases List.mem_append.mp hs with hs | hs <;> rcases List.mem_append.mp ht with ht | ht
    · exact hn.dist x y s t hs ht hst
    · exact absurd hst (hnew hs ht)
    · exact absurd hst.symm (hnew ht hs)
    · obtain ⟨w, hw, hwx, hsw⟩ := mem_newAt.mp hs
      obtain ⟨w', hw', hwy, htw⟩ := mem_newAt.mp ht
      exact hwx ▸ hwy ▸ entry_of_name se hf.distinct w hw w' hw' s hsw t htw hst
  · intro x
    rw [applyWrites_files, List.map_append]
    refine List.nodup_append.mpr ⟨hn.loc x, ((filter_flatMap_sublist _ _ se).map _).nodup hf.distinct, fun a ha b hb e => ?_⟩
    obtain ⟨s, hs, rfl⟩ := List.mem_map.mp ha
    obtain ⟨t, ht, rfl⟩ := List.mem_map.mp hb
    exact hnew hs ht e

def newFor (se : Session) (s : Nat) : List Shard := (se.filter (fun w => w.1.headD 0 = s)).flatMap (·.2)

theorem mem_newFor {se : Session} {s : Nat} {sh : Shard} : sh ∈ newFor se s ↔ ∃ w ∈ se, w.1.headD 0 = s ∧ sh ∈ w.2 := by
  simp only [newFor, List.mem_flatMap, List.mem_filter, decide_eq_true_eq, and_assoc]

section
variable (H : SList → Nat) (B fuel : Nat) (hfuel : B < fuel + 1) (hB : 1 ≤ B) (ds : DS) (se : Session)
  (hse : ∀ w ∈ se, w.1 ≠ [] ∧ w.1.length ≤ B) (hg : Good H B ds)
include hfuel hB hse hg

theorem session_linked (hl : Linked ds.fs) : Linked (session H fuel ds se).fs := by
  have hp := session_post H B fuel hfuel hB ds se hse hg
  intro x hx
  rcases hp.existNew x hx with h | ⟨s, hs⟩
  · by_cases hw : ∃ w ∈ se, w.1 = x
    · obtain ⟨w, hw, rfl⟩ := hw; exact hp.dirs w hw
    · rw [applyWrites_other se ds.fs x fun w hw' e => hw ⟨w, hw', e⟩] at h
      exact hp.reach _ x (applyWrites_reaches se (hl x h))
  · exact head_of_single_prefix (hs.prefix hp.good.wf) ▸ hs

theorem session_adds_exactly (hl : Linked ds.fs) (s : Nat) (sh : Shard) :
    sh ∈ shardsOf fuel (session H fuel ds se).fs [s] ↔
      sh ∈ shardsOf fuel ds.fs [s] ∨ ∃ w ∈ se, w.1.headD 0 = s ∧ sh ∈ w.2 := by
  have hp := session_post H B fuel hfuel hB ds se hse hg
  rw [mem_shardsOf B fuel _ [s] hp.good.wf hp.good.depth hB hfuel sh,
      mem_shardsOf B fuel _ [s] hg.wf hg.depth hB hfuel sh]
  simp only [hp.files, applyWrites_files, List.mem_append, mem_newAt]
  constructor
  · rintro ⟨x, hx, hold | ⟨w, hw, rfl, hsh⟩⟩
    · -- an old entry of x: x existed before, hence was linked
      exact .inl ⟨x, head_of_single_prefix (hx.prefix hp.good.wf) ▸ hl x (ne_none_of_mem_filesAt hold), hold⟩
    · exact .inr ⟨w, hw, head_of_single_prefix (hx.prefix hp.good.wf), hsh⟩
  · rintro (⟨x, hx, hsh⟩ | ⟨w, hw, rfl, hsh⟩)
    · exact ⟨x, hp.reach s x (applyWrites_reaches se hx), .inl hsh⟩
    · exact ⟨w.1, hp.dirs w hw, .inr ⟨w, hw, rfl, hsh⟩⟩

/-- the merge never touches shard entries -/
theorem session_namesOK (hn : NamesOK ds.fs) (hf : FreshSession ds.fs se) :
    NamesOK (session H fuel ds se).fs := by
  have hfiles := (session_post H B fuel hfuel hB ds se hse hg).files
  have h := namesOK_applyWrites ds.fs se hn hf
  exact ⟨fun x y s t hs ht => h.dist x y s t (hfiles x ▸ hs) (hfiles y ▸ ht), fun x => hfiles x ▸ h.loc x⟩

theorem session_perm (hl : Linked ds.fs) (hn : NamesOK ds.fs) (hf : FreshSession ds.fs se) (s : Nat) :
    (shardsOf fuel (session H fuel ds se).fs [s]).Perm (shardsOf fuel ds.fs [s] ++ newFor se s) := by
  have hgood := (session_post H B fuel hfuel hB ds se hse hg).good
  have hn' := session_namesOK H B fuel hfuel hB ds se hse hg hn hf
  have nd1 := shardsOf_nodup hgood.wf hn' fuel [s]
  have nd0 := shardsOf_nodup hg.wf hn fuel [s]
  have ndn : (newFor se s).Nodup := (filter_flatMap_sublist _ _ se).nodup (nodup_of_map (·.file) _ hf.distinct)
  have nd2 : (shardsOf fuel ds.fs [s] ++ newFor se s).Nodup := by
    refine List.nodup_append.mpr ⟨nd0, ndn, fun a ha b hb hab => ?_⟩
    subst hab
    obtain ⟨w, hw, _, haw⟩ := mem_newFor.mp hb
    obtain ⟨x, _, hax⟩ := shardsOf_reaches fuel [s] ha
    exact hf.unused w hw a haw x a hax rfl
  rw [List.perm_ext_iff_of_nodup nd1 nd2]
  intro sh
  rw [session_adds_exactly H B fuel hfuel hB ds se hse hg hl s sh, List.mem_append, mem_newFor]

end

theorem history_good (H : SList → Nat) (B fuel : Nat) (hfuel : B < fuel + 1) (hB : 1 ≤ B) (hist : List Session)
    (hh : ∀ se ∈ hist, ∀ w ∈ se, w.1 ≠ [] ∧ w.1.length ≤ B) (ds : DS) (hg : Good H B ds) (hl : Linked ds.fs) :
    Good H B (hist.foldl (session H fuel) ds) ∧ Linked (hist.foldl (session H fuel) ds).fs :=
  foldl_inv (P := fun ds => Good H B ds ∧ Linked ds.fs) hist ds ⟨hg, hl⟩ fun ds se hse h =>
    ⟨(session_post H B fuel hfuel hB ds se (hh se hse) h.1).good, session_linked H B fuel hfuel hB ds se (hh se hse) h.1 h.2⟩

end Sedpack.Tree
