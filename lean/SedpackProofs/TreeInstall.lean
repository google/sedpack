import SedpackModel.TreeCrash
import SedpackProofs.TreeBasic
/-! Install sequences: what one atomic replacement of a list document must satisfy (`StepOK`), sequences of such replacements
(`Valid`), and what they preserve: the store invariants a reader relies on (`SInv`) and everything a reader could see (`Mono`). -/
namespace Sedpack.Tree

theorem applyInstalls_cons (fs : FS) (i : Install) (rest : List Install) :
    applyInstalls fs (i :: rest) = applyInstalls (fs.set i.1 i.2) rest := rfl

theorem applyInstalls_append (fs : FS) (a b : List Install) : applyInstalls fs (a ++ b) = applyInstalls (applyInstalls fs a) b :=
  List.foldl_append

theorem applyInstalls_frame (x : Dir) (ins : List Install) (fs : FS) (h : ∀ i ∈ ins, i.1 ≠ x) : applyInstalls fs ins x = fs x :=
  foldl_inv (P := fun f => f x = fs x) ins fs rfl fun f i hi hf => (set_other f i.1 x i.2 fun e => h i hi e.symm).trans hf

/-- no dangling child record -/
def ND (fs : FS) : Prop := ∀ y l, fs y = some l → ∀ k ∈ l.kids, fs k.dir ≠ none

structure StepOK (B : Nat) (fs : FS) (i : Install) : Prop where
  wfl : WFL i.1 i.2
  depth : ∀ c ∈ i.2.kids, c.dir.length ≤ B
  kidsExist : ∀ c ∈ i.2.kids, fs c.dir ≠ none
  files : filesAt fs i.1 <+: i.2.files
  kids : ∀ c ∈ kidsAt fs i.1, c.dir ∈ i.2.kids.map (·.dir)

def Valid (B : Nat) : FS → List Install → Prop
  | _, [] => True
  | fs, i :: rest => StepOK B fs i ∧ Valid B (fs.set i.1 i.2) rest

theorem valid_append (B : Nat) (a b : List Install) : ∀ fs : FS,
    Valid B fs (a ++ b) ↔ Valid B fs a ∧ Valid B (applyInstalls fs a) b := by
  induction a with
  | nil => exact fun _ => ⟨fun h => ⟨trivial, h⟩, fun h => h.2⟩
  | cons i a ih => intro fs; simp only [List.cons_append, Valid, ih, applyInstalls_cons, and_assoc]

theorem valid_take (B : Nat) (fs : FS) (ins : List Install) (k : Nat) (h : Valid B fs ins) :
    Valid B fs (ins.take k) ∧ Valid B (applyInstalls fs (ins.take k)) (ins.drop k) := by
  rw [← valid_append, List.take_append_drop]; exact h

structure SInv (B : Nat) (fs : FS) : Prop where
  wf : WF fs
  depth : DepthOK fs B
  nd : ND fs

structure Mono (fs fs' : FS) : Prop where
  ex : ∀ x, fs x ≠ none → fs' x ≠ none
  files : ∀ x, filesAt fs x <+: filesAt fs' x
  reach : ∀ a x, Reaches fs a x → Reaches fs' a x

theorem Mono.refl (fs : FS) : Mono fs fs := ⟨fun _ h => h, fun _ => List.prefix_refl _, fun _ _ h => h⟩

theorem Mono.trans {a b c : FS} (h1 : Mono a b) (h2 : Mono b c) : Mono a c :=
  ⟨fun x h => h2.ex x (h1.ex x h), fun x => (h1.files x).trans (h2.files x), fun p x h => h2.reach p x (h1.reach p x h)⟩

theorem step_sinv (B : Nat) (fs : FS) (i : Install) (hs : StepOK B fs i) (hi : SInv B fs) : SInv B (fs.set i.1 i.2) :=
  -- `nd`: every document, the new one included, names children that exist in `fs`, and `set` removes no document
  ⟨forall_set hi.wf hs.wfl, forall_set hi.depth hs.depth, fun x l hx c hc => set_ne_none fs _ _
    (forall_set (P := fun _ l => ∀ c ∈ l.kids, fs c.dir ≠ none) hi.nd hs.kidsExist x l hx c hc)⟩

theorem step_mono (B : Nat) (fs : FS) (i : Install) (hs : StepOK B fs i) : Mono fs (fs.set i.1 i.2) := by
  refine ⟨fun x => set_ne_none fs _ _, fun x => ?_, fun a x h => h.mono fun y => ?_⟩
  · rw [filesAt_set]; split
    · next h => exact h ▸ hs.files
    · exact List.prefix_refl _
  · rw [subs_set]; split
    · next h => exact h ▸ List.forall_mem_map.mpr hs.kids
    · exact fun _ h => h

theorem valid_mono (B : Nat) : ∀ (ins : List Install) (fs : FS), Valid B fs ins → Mono fs (applyInstalls fs ins) := by
  intro ins
  induction ins with
  | nil => exact fun _ _ => .refl _
  | cons i rest ih => exact fun fs hv => (step_mono B fs i hv.1).trans (ih _ hv.2)

theorem valid_sinv (B : Nat) : ∀ (ins : List Install) (fs : FS), Valid B fs ins → SInv B fs → SInv B (applyInstalls fs ins) := by
  intro ins
  induction ins with
  | nil => exact fun _ _ hi => hi
  | cons i rest ih => exact fun fs hv hi => ih _ hv.2 (step_sinv B fs i hv.1 hi)

theorem valid_sinv_mono (B : Nat) (ins : List Install) (fs : FS) (hv : Valid B fs ins) (hi : SInv B fs) :
    SInv B (applyInstalls fs ins) ∧ Mono fs (applyInstalls fs ins) :=
  ⟨valid_sinv B ins fs hv hi, valid_mono B ins fs hv⟩

end Sedpack.Tree
