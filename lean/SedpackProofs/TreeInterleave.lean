import SedpackProofs.TreeSession
/-! Effects of concurrent writers on the store commute when their footprints are disjoint. -/
namespace Sedpack.Tree

/-- one `close_shard` of some writer -/
structure Eff where
  writer : Nat
  dir : Dir
  shard : Shard
deriving DecidableEq, Repr

def applyEff (fs : FS) (e : Eff) : FS := appendShards fs e.dir [e.shard]
def applyEffs (fs : FS) (es : List Eff) : FS := es.foldl applyEff fs

theorem applyEffs_congr (x : Dir) (es : List Eff) (fs fs' : FS) (h : fs x = fs' x) :
    applyEffs fs es x = applyEffs fs' (es.filter (fun e => e.dir = x)) x := by
  induction es generalizing fs fs' with
  | nil => exact h
  | cons e es ih =>
    rw [List.filter_cons]
    split
    · next hd =>
      refine ih _ _ ?_
      obtain rfl := of_decide_eq_true hd
      simp only [applyEff, appendShards, set_same, h]
    · next hd => exact ih _ _ ((appendShards_other fs e.dir x [e.shard] fun hx => hd (decide_eq_true hx.symm)).trans h)

theorem applyEffs_eq_of_filter_eq (fs : FS) (es₁ es₂ : List Eff)
    (h : ∀ x, es₁.filter (fun e => e.dir = x) = es₂.filter (fun e => e.dir = x)) :
    applyEffs fs es₁ = applyEffs fs es₂ := by
  funext x
  rw [applyEffs_congr x es₁ fs fs rfl, applyEffs_congr x es₂ fs fs rfl, h x]

def IsInterleaving (ws : List (List Eff)) (il : List Eff) : Prop :=
  (∀ e ∈ il, e.writer < ws.length) ∧ ∀ i, il.filter (fun e => e.writer = i) = ws.getD i []

/-- in the code each writer gets its own random sub-directory -/
def OwnDirs (ws : List (List Eff)) : Prop :=
  (∀ i, ∀ e ∈ ws.getD i [], e.writer = i) ∧
  ∀ i j, i ≠ j → ∀ e ∈ ws.getD i [], ∀ f ∈ ws.getD j [], e.dir ≠ f.dir

theorem filter_flatten_unique (p : Eff → Bool) (ws : List (List Eff)) (i : Nat)
    (h : ∀ j, j ≠ i → ∀ f ∈ ws.getD j [], p f = false) : ws.flatten.filter p = (ws.getD i []).filter p := by
  induction ws generalizing i with
  | nil => rfl
  | cons a as ih =>
    rw [List.flatten_cons, List.filter_append]
    cases i with
    | zero =>
      -- `as.length` names no list of `as`: by the induction hypothesis the rest contributes nothing
      rw [ih as.length fun j _ => h (j + 1) (Nat.succ_ne_zero j), List.getD_eq_getElem?_getD, List.getElem?_eq_none (Nat.le_refl _)]
      exact List.append_nil _
    | succ i =>
      rw [ih i fun j hj => h (j + 1) fun e => hj (Nat.succ.inj e),
        List.filter_eq_nil_iff.mpr fun f hf => Bool.not_eq_true _ ▸ h 0 (Nat.succ_ne_zero i).symm f hf]
      rfl

theorem filter_dir_of_interleaving (ws : List (List Eff)) (hown : OwnDirs ws) (il : List Eff)
    (hil : IsInterleaving ws il) (x : Dir) :
    il.filter (fun e => e.dir = x) = ws.flatten.filter (fun e => e.dir = x) := by
  -- at most one writer `i` has effects at `x`
  obtain ⟨i, hi⟩ : ∃ i, ∀ j, j ≠ i → ∀ f ∈ ws.getD j [], decide (f.dir = x) = false := by
    by_cases h : ∃ i, ∃ e ∈ ws.getD i [], e.dir = x
    · obtain ⟨i, e, he, hx⟩ := h
      exact ⟨i, fun j hj f hf => decide_eq_false fun hfx => hown.2 j i hj f hf e he (hfx.trans hx.symm)⟩
    · exact ⟨0, fun j _ f hf => decide_eq_false fun hfx => h ⟨j, f, hf, hfx⟩⟩
  rw [filter_flatten_unique _ ws i hi, ← hil.2 i, List.filter_filter]
  refine List.filter_congr fun e he => ?_
  -- an effect of `il` at `x` belongs to writer `i`
  have hoff : e.writer ≠ i → decide (e.dir = x) = false := fun hne =>
    hi e.writer hne e (hil.2 e.writer ▸ List.mem_filter.mpr ⟨he, decide_eq_true rfl⟩)
  by_cases hw : e.writer = i
  · rw [decide_eq_true hw, Bool.and_true]
  · rw [hoff hw, Bool.false_and]

end Sedpack.Tree
