import SedpackProofs.TreeInstall
/-! `merge_spec`: the recursive merge returns an exact info, touches nothing outside its directory,
keeps every list's shard files, and leaves the store well formed and within the depth bound — by induction on the
recursion, for every tree depth.  The induction runs over `Merges`, a description of the store after
merging pairwise disjoint sub-trees that composes by transitivity; `Post` is read off at the end.  `merge` is the first
component of `mergeE`, the merge that logs the documents it installs; the same induction shows that what it logs is a
valid install sequence leading to the new store. -/
namespace Sedpack.Tree

/-- what `merge` at `e` asks of the store and the updates; the fuel has to exceed `B` -/
structure Pre (B : Nat) (fs : FS) (e : Dir) (us : List Kid) : Prop where
  wf : WF fs
  depth : DepthOK fs B
  ups : ∀ u ∈ us, e <+: u.dir ∧ u.dir.length ≤ B
  len : e.length ≤ B

def OnPath (fs : FS) (e : Dir) (us : List Kid) (x : Dir) : Prop :=
  ∃ u ∈ us, ∃ a, e <+: a ∧ a <+: u.dir ∧ Reaches fs a x

/-- what `merge` at `e` guarantees (`merge_spec`).  `existNew`: the merge leaves no unlinked list; `kidsOrder`: the child records
at `e` stand in the order in which `groupBy` first meets their directories, updates before the children recorded so far -/
structure Post (H : SList → Nat) (B : Nat) (fs : FS) (e : Dir) (us : List Kid) (fs' : FS) (k : Kid) : Prop where
  dir : k.dir = e
  reachOld : ∀ x, Reaches fs e x → Reaches fs' e x
  reachNew : ∀ x, Reaches fs' e x → Reaches fs e x ∨ OnPath fs e us x
  existNew : ∀ x, fs' x ≠ none → fs x ≠ none ∨ Reaches fs' e x
  reachUps : ∀ u ∈ us, Reaches fs' e u.dir
  kidsOrder : ∃ l', fs' e = some l' ∧ l'.kids.map (·.dir) =
      (groupBy e.length (us.filter (fun u => u.dir.length > e.length) ++ ((fs e).getD {}).kids)).map (fun g => e ++ [g.1])
  frame : ∀ x, ¬ e <+: x → fs' x = fs x
  exact : Exact H fs' k
  wf : WF fs'
  depth : DepthOK fs' B
  files : ∀ x, filesAt fs' x = filesAt fs x

/-- what `merge` groups at `d` -/
abbrev deeper (fs : FS) (d : Dir) (us : List Kid) : List Kid :=
  us.filter (fun u => u.dir.length > d.length) ++ ((fs d).getD {}).kids

theorem foldMergeE_fst {ME : FS → Dir → List Kid → (FS × Kid) × List Install} {M : FS → Dir → List Kid → FS × Kid}
    (h : ∀ fs e us, (ME fs e us).1 = M fs e us) (d : Dir) (gs : List (Nat × List Kid)) :
    ∀ acc, (foldMergeE ME d gs acc).1 =
      gs.foldl (fun (acc : FS × List Kid) g => let m := M acc.1 (d ++ [g.1]) g.2; (m.1, acc.2 ++ [m.2])) acc.1 := by
  induction gs with
  | nil => exact fun _ => rfl
  | cons g gs ih => intro acc; rw [foldMergeE, List.foldl_cons, ← h]; exact ih _

theorem mergeE_fst (H : SList → Nat) : ∀ (fuel : Nat) (fs : FS) (d : Dir) (us : List Kid),
    (mergeE H fuel fs d us).1 = merge H fuel fs d us := by
  intro fuel
  induction fuel with
  | zero => exact fun _ _ _ => rfl
  | succ fuel ih => intro fs d us; rw [merge, ← foldMergeE_fst ih d _ ((fs, []), [])]; rfl

/-- `fs'` results from `fs` by merging the sub-trees rooted at the directories `rs` (each with its updates); `ks` are the infos
returned, those of the roots in order (`dirs`), and `ins` the documents installed on the way, a valid sequence that leads from
`fs` to `fs'`.  `new` is what `Post.reachNew` is read off; `ups`: every update is reachable from its root afterwards. -/
structure Merges (H : SList → Nat) (B : Nat) (fs : FS) (rs : List (Dir × List Kid)) (fs' : FS) (ks : List Kid)
    (ins : List Install) : Prop where
  wf : WF fs'
  depth : DepthOK fs' B
  frame : ∀ x, (∀ r ∈ rs, ¬ r.1 <+: x) → fs' x = fs x
  files : ∀ x, filesAt fs' x = filesAt fs x
  kept : ∀ x, subs fs x ⊆ subs fs' x
  new : ∀ x, ∀ b ∈ subs fs' x, b ∈ subs fs x ∨ ∃ r ∈ rs, ∃ u ∈ r.2, r.1 <+: b ∧ b <+: u.dir
  existNew : ∀ x, fs' x ≠ none → fs x ≠ none ∨ ∃ r ∈ rs, Reaches fs' r.1 x
  dirs : ks.map (·.dir) = rs.map (·.1)
  exact : ∀ k ∈ ks, Exact H fs' k
  ups : ∀ r ∈ rs, ∀ u ∈ r.2, Reaches fs' r.1 u.dir
  valid : Valid B fs ins
  store : applyInstalls fs ins = fs'

section
variable {H : SList → Nat} {B : Nat} {fs f f1 f2 : FS} {d : Dir} {us ks ks' : List Kid} {rs rs' : List (Dir × List Kid)}
  {ins ins' : List Install}

theorem Merges.nil (hwf : WF fs) (hd : DepthOK fs B) : Merges H B fs [] fs [] [] :=
  { wf := hwf, depth := hd, frame := fun _ _ => rfl, files := fun _ => rfl, kept := fun _ _ h => h, new := fun _ _ h => .inl h,
    existNew := fun _ h => .inl h, dirs := rfl, exact := nofun, ups := nofun, valid := trivial, store := rfl }

/-- only `exact`, for the infos returned first, needs `hdisj`: the second merge does not touch their sub-trees -/
theorem Merges.append (h1 : Merges H B fs rs f1 ks ins) (h2 : Merges H B f1 rs' f2 ks' ins')
    (hdisj : ∀ r ∈ rs, ∀ r' ∈ rs', ∀ x, r.1 <+: x → ¬ r'.1 <+: x) : Merges H B fs (rs ++ rs') f2 (ks ++ ks') (ins ++ ins') where
  valid := (valid_append B ins ins' fs).mpr ⟨h1.valid, h1.store ▸ h2.valid⟩
  store := by rw [applyInstalls_append, h1.store, h2.store]
  wf := h2.wf
  depth := h2.depth
  files x := (h2.files x).trans (h1.files x)
  kept x b hb := h2.kept x (h1.kept x hb)
  dirs := by rw [List.map_append, List.map_append, h1.dirs, h2.dirs]
  frame x hx := by
    rw [h2.frame x (fun r hr => hx r (List.mem_append_right _ hr)), h1.frame x (fun r hr => hx r (List.mem_append_left _ hr))]
  new x b hb := by
    rcases h2.new x b hb with h | ⟨r, hr, h⟩
    · rcases h1.new x b h with h | ⟨r, hr, h⟩
      · exact .inl h
      · exact .inr ⟨r, List.mem_append_left _ hr, h⟩
    · exact .inr ⟨r, List.mem_append_right _ hr, h⟩
  existNew x hx := by
    rcases h2.existNew x hx with h | ⟨r, hr, h⟩
    · rcases h1.existNew x h with h | ⟨r, hr, h⟩
      · exact .inl h
      · exact .inr ⟨r, List.mem_append_left _ hr, h.mono h2.kept⟩
    · exact .inr ⟨r, List.mem_append_right _ hr, h⟩
  exact k hk := by
    rcases List.mem_append.mp hk with hk | hk
    · obtain ⟨r, hr, hrk⟩ := List.mem_map.mp (h1.dirs ▸ List.mem_map_of_mem (f := Kid.dir) hk)
      exact (h1.exact k hk).frame fun x hx => h2.frame x fun r' hr' => hdisj r hr r' hr' x (hrk ▸ hx)
    · exact h2.exact k hk
  ups r hr u hu := by
    rcases List.mem_append.mp hr with hr | hr
    · exact (h1.ups r hr u hu).mono h2.kept
    · exact h2.ups r hr u hu

theorem Merges.dir {fs' : FS} {k : Kid} (h : Merges H B fs [(d, us)] fs' [k] ins) : k.dir = d := List.head_eq_of_cons_eq h.dirs

theorem Merges.root {G : List (Nat × List Kid)} (hf : Merges H B fs (G.map fun g => (d ++ [g.1], g.2)) f ks ins) : f d = fs d :=
  hf.frame d (List.forall_mem_map.mpr fun g _ => not_snoc_prefix d g.1)

abbrev GroupsBelow (B : Nat) (d : Dir) (G : List (Nat × List Kid)) : Prop :=
  ∀ g ∈ G, d.length + 1 ≤ B ∧ ∀ u ∈ g.2, (d ++ [g.1]) <+: u.dir ∧ u.dir.length ≤ B

theorem foldMergeE_merges {ME : FS → Dir → List Kid → (FS × Kid) × List Install}
    (hM : ∀ fs e us, e.length = d.length + 1 → Pre B fs e us →
      Merges H B fs [(e, us)] (ME fs e us).1.1 [(ME fs e us).1.2] (ME fs e us).2) :
    ∀ (gs : List (Nat × List Kid)) (fs : FS) (ks0 : List Kid) (ins0 : List Install),
      (gs.map (·.1)).Nodup → WF fs → DepthOK fs B → GroupsBelow B d gs →
      ∃ f ks ins, foldMergeE ME d gs ((fs, ks0), ins0) = ((f, ks0 ++ ks), ins0 ++ ins) ∧
        Merges H B fs (gs.map fun g => (d ++ [g.1], g.2)) f ks ins := by
  intro gs
  induction gs with
  | nil => intro fs ks0 ins0 _ hwf hd _; exact ⟨fs, [], [], by rw [List.append_nil, List.append_nil]; rfl, .nil hwf hd⟩
  | cons g gs ih =>
    intro fs ks0 ins0 hnd hwf hd hg
    obtain ⟨hB, hups⟩ := hg g List.mem_cons_self
    have h1 := hM fs (d ++ [g.1]) g.2 (length_snoc d g.1) ⟨hwf, hd, hups, length_snoc d g.1 ▸ hB⟩
    rw [List.map_cons, List.nodup_cons] at hnd
    obtain ⟨f, ks, ins, he, h2⟩ := ih _ (ks0 ++ [(ME fs (d ++ [g.1]) g.2).1.2]) (ins0 ++ (ME fs (d ++ [g.1]) g.2).2)
      hnd.2 h1.wf h1.depth fun g' hg' => hg g' (List.mem_cons_of_mem _ hg')
    refine ⟨f, _ :: ks, _ ++ ins, by rw [foldMergeE, he, List.append_assoc, List.append_assoc]; rfl,
      h1.append h2 fun r hr r' hr' x hx => ?_⟩
    obtain ⟨g', hg', rfl⟩ := List.mem_map.mp hr'
    rw [List.mem_singleton.mp hr] at hx
    exact prefix_snoc_ne (fun e : g.1 = g'.1 => hnd.1 (e ▸ List.mem_map_of_mem hg')) hx

theorem mem_deeper {m : Kid} (h : m ∈ deeper fs d us) :
    (m ∈ us ∧ d.length < m.dir.length) ∨ m.dir ∈ subs fs d := by
  rcases List.mem_append.mp h with h | h
  · exact .inl ⟨(List.mem_filter.mp h).1, of_decide_eq_true (List.mem_filter.mp h).2⟩
  · exact .inr (mem_subs_getD h)

theorem Pre.groups {G : List (Nat × List Kid)} (hp : Pre B fs d us) (hgi : GInv d.length (deeper fs d us) G) :
    GroupsBelow B d G := by
  intro g hg
  have hdeep : ∀ u ∈ g.2, d <+: u.dir ∧ d.length < u.dir.length ∧ u.dir.length ≤ B := by
    intro u hu
    rcases mem_deeper (hgi.sound g.1 g.2 hg u hu).1 with ⟨h1, h2⟩ | hb
    · exact ⟨(hp.ups u h1).1, h2, (hp.ups u h1).2⟩
    · obtain ⟨y, hy⟩ := hp.wf.subs hb
      exact ⟨hy ▸ List.prefix_append _ _, hy ▸ length_snoc d y ▸ Nat.lt_succ_self _, hp.depth.subs hb⟩
  obtain ⟨u, hu⟩ := List.exists_mem_of_ne_nil _ (hgi.nonempty g.1 g.2 hg)
  refine ⟨Nat.le_trans (hdeep u hu).2.1 (hdeep u hu).2.2, fun u hu => ⟨?_, (hdeep u hu).2.2⟩⟩
  exact (hgi.sound g.1 g.2 hg u hu).2 ▸ prefix_snoc_getD (hdeep u hu).1 (hdeep u hu).2.1

/-- the write at `d` that ends a merge -/
theorem Merges.write {l' : SList} {G : List (Nat × List Kid)} (hp : Pre B fs d us) (hgi : GInv d.length (deeper fs d us) G)
    (hf : Merges H B fs (G.map fun g => (d ++ [g.1], g.2)) f ks ins)
    (hk : l'.kids = ks) (hfl : l'.files = filesAt fs d) (hn : l'.n = sumF l'.files + sumN l'.kids) :
    Merges H B fs [(d, us)] (f.set d l') [(writeConfig H f d l').2] (ins ++ [(d, l')]) := by
  have hgr := hp.groups hgi
  have hkd : l'.kids.map (·.dir) = G.map fun g => d ++ [g.1] := by rw [hk, hf.dirs, List.map_map]; rfl
  have hkg : ∀ c ∈ l'.kids, ∃ g ∈ G, d ++ [g.1] = c.dir := fun c hc => List.mem_map.mp (hkd ▸ List.mem_map_of_mem hc)
  have hsubl : subs (f.set d l') d = l'.kids.map (·.dir) := by rw [subs_set, if_pos rfl]
  have hsubd := hsubl.trans hkd
  have hroot : ∀ {p}, p ∈ G → d ++ [p.1] ∈ subs (f.set d l') d := fun hpG => hsubd ▸ List.mem_map_of_mem hpG
  have hsubo : ∀ x, x ≠ d → subs (f.set d l') x = subs f x := fun x hx => by rw [subs_set, if_neg hx]
  -- the write drops no child directory: `kept`, `existNew` and `ups` carry paths of `f` over to `f.set d l'` by this
  have hmono : ∀ y, subs f y ⊆ subs (f.set d l') y := by
    intro y b hb
    by_cases hy : y = d
    · -- a child the list at `d` recorded is the root of its group
      rw [hy, subs_congr hf.root] at hb
      obtain ⟨y', hy'⟩ := hp.wf.subs hb
      obtain ⟨c, hc, rfl⟩ := List.mem_map.mp hb
      obtain ⟨vs, hvs, _⟩ := hgi.cover c (List.mem_append_right _ (getD_kids fs d ▸ hc))
      rw [hy', getD_snoc] at hvs
      rw [hy, hy']; exact hroot hvs
    · rwa [hsubo y hy]
  have hwfl' : WFL d l' := by
    refine ⟨hn, fun c hc => let ⟨g, _, hg⟩ := hkg c hc; ⟨g.1, hg.symm⟩, ?_⟩
    have := List.Pairwise.map (S := (· ≠ ·)) (fun g => d ++ [g]) (fun a b hab e => hab (snoc_inj e)) hgi.nodup
    rw [hkd]; rwa [List.map_map] at this
  have hdep' : ∀ c ∈ l'.kids, c.dir.length ≤ B := fun c hc => by
    obtain ⟨g, hg, hgc⟩ := hkg c hc
    rw [← hgc, length_snoc]; exact (hgr g hg).1
  -- the children named exist, being exact
  have hstep : StepOK B f (d, l') :=
    ⟨hwfl', hdep', fun c hc => (hf.exact c (hk ▸ hc)).reaches_ne_none (.refl _), by rw [hfl, hf.files d]; exact List.prefix_refl _,
      fun c hc => hsubl ▸ hmono d (List.mem_map_of_mem hc)⟩
  exact {
    valid := (valid_append B ins _ fs).mpr ⟨hf.valid, hf.store ▸ ⟨hstep, trivial⟩⟩
    store := by rw [applyInstalls_append, hf.store]; rfl
    wf := forall_set hf.wf hwfl'
    depth := forall_set hf.depth hdep'
    frame x hx := by
      have hdx : ¬ d <+: x := hx _ List.mem_cons_self
      rw [set_other _ _ _ _ fun e : x = d => hdx (e ▸ List.prefix_refl _)]
      exact hf.frame x (List.forall_mem_map.mpr fun g _ h => hdx ((List.prefix_append _ _).trans h))
    files x := by
      rw [filesAt_set]
      split
      · next h => rw [h, hfl]
      · exact hf.files x
    kept x b hb := hmono x (hf.kept x hb)
    new x b hb := by
      have : b ∈ subs fs x ∨ ∃ p ∈ G, ∃ m ∈ p.2, (d ++ [p.1]) <+: b ∧ b <+: m.dir := by
        by_cases hx : x = d
        · rw [hx, hsubd] at hb
          obtain ⟨p, hpG, rfl⟩ := List.mem_map.mp hb
          obtain ⟨m, hm⟩ := List.exists_mem_of_ne_nil _ (hgi.nonempty p.1 p.2 hpG)
          exact .inr ⟨p, hpG, m, hm, List.prefix_refl _, ((hgr p hpG).2 m hm).1⟩
        · rw [hsubo x hx] at hb
          refine (hf.new x b hb).imp id fun ⟨r, hr, u, hu, h⟩ => ?_
          obtain ⟨p, hpG, rfl⟩ := List.mem_map.mp hr
          exact ⟨p, hpG, u, hu, h⟩
      rcases this with h | ⟨p, hpG, m, hm, h1, h2⟩
      · exact .inl h
      · rcases mem_deeper (hgi.sound p.1 p.2 hpG m hm).1 with ⟨hmu, _⟩ | hmk
        · exact .inr ⟨_, List.mem_cons_self, m, hmu, (List.prefix_append _ _).trans h1, h2⟩
        · -- `m` is a child the list at `d` recorded: `b` is its directory, so `x`, one level above, is `d`
          obtain ⟨y, hy⟩ := hp.wf.subs hmk
          obtain ⟨y', hy'⟩ := WF.subs (forall_set hf.wf hwfl') hb
          have hbm : b = m.dir := h2.eq_of_length_le (by rw [hy, length_snoc, ← length_snoc d p.1]; exact h1.length_le)
          rw [List.append_inj_left' (hy'.symm.trans (hbm.trans hy)) rfl, hbm]
          exact .inl hmk
    existNew x hx := by
      by_cases hxd : x = d
      · subst hxd; exact .inr ⟨_, List.mem_cons_self, .refl _⟩
      · rw [set_other _ _ _ _ hxd] at hx
        rcases hf.existNew x hx with h | ⟨r, hr, h⟩
        · exact .inl h
        · obtain ⟨p, hpG, rfl⟩ := List.mem_map.mp hr
          exact .inr ⟨_, List.mem_cons_self, .edge (hroot hpG) (h.mono hmono)⟩
    dirs := rfl
    exact k hk' := by
      rw [List.mem_singleton.mp hk']
      refine Exact.mk (l := l') (set_same _ _ _) rfl rfl rfl hwfl' fun c hc => (hf.exact c (hk ▸ hc)).frame fun x hx => ?_
      exact set_other _ _ _ _ fun e => hwfl'.kid_not_prefix hc (e ▸ hx)
    ups r hr u hu := by
      -- an update below `d` is in the group of its next component and is reached through that group's root; one at `d` is `d`
      rw [List.mem_singleton.mp hr] at hu ⊢
      by_cases hlt : d.length < u.dir.length
      · obtain ⟨vs, hvs, huv⟩ := hgi.cover u (List.mem_append_left _ (List.mem_filter.mpr ⟨hu, decide_eq_true hlt⟩))
        exact .edge (hroot hvs) ((hf.ups (d ++ [u.dir.getD d.length 0], vs) (List.mem_map.mpr ⟨_, hvs, rfl⟩) u huv).mono hmono)
      · exact (hp.ups u hu).1.eq_of_length_le (Nat.not_lt.mp hlt) ▸ .refl d }

end

theorem merge_merges (H : SList → Nat) (B : Nat) : ∀ (fuel : Nat) (fs : FS) (d : Dir) (us : List Kid),
    B < fuel + d.length → Pre B fs d us →
    Merges H B fs [(d, us)] (merge H fuel fs d us).1 [(merge H fuel fs d us).2] (mergeE H fuel fs d us).2 ∧
    ∃ l', (merge H fuel fs d us).1 d = some l' ∧
      l'.kids.map (·.dir) = (groupBy d.length (deeper fs d us)).map fun g => d ++ [g.1] := by
  intro fuel
  induction fuel with
  | zero => intro fs d us hf hp; have := hp.len; omega
  | succ fuel ih =>
    intro fs d us hf hp
    obtain ⟨f, ks, ins, he, hfold⟩ := foldMergeE_merges (ME := mergeE H fuel)
      (fun fs' e us' hl hpre => mergeE_fst H fuel fs' e us' ▸ (ih fs' e us' (by omega) hpre).1) _ fs [] []
      (groupBy_inv _ _).nodup hp.wf hp.depth (hp.groups (groupBy_inv _ _))
    have hn : ((fs d).getD {}).n - sumN ((fs d).getD {}).kids = sumF ((fs d).getD {}).files := by
      rw [(hp.wf.getD d).sum, Nat.add_sub_cancel]
    rw [← mergeE_fst]
    simp only [mergeE, he]
    exact ⟨.write hp (groupBy_inv _ _) hfold rfl (getD_files fs d) (congrArg (· + _) hn),
      _, set_same _ _ _, (hfold.dirs.trans (List.map_map ..)).trans rfl⟩

theorem merge_spec (H : SList → Nat) (B : Nat) : ∀ (fuel : Nat) (fs : FS) (d : Dir) (us : List Kid),
    B < fuel + d.length → Pre B fs d us → Post H B fs d us (merge H fuel fs d us).1 (merge H fuel fs d us).2 := by
  intro fuel fs d us hf hp
  obtain ⟨h, hkids⟩ := merge_merges H B fuel fs d us hf hp
  exact {
    dir := h.dir
    reachOld x hx := hx.mono h.kept
    reachNew x hx := by
      refine (Reaches.split (P := fun b => ∃ u ∈ us, d <+: b ∧ b <+: u.dir) (fun y b hb => ?_) hx).imp id
        fun ⟨b, ⟨u, hu, h1, h2⟩, _, hb⟩ => ⟨u, hu, b, h1, h2, hb⟩
      simpa only [List.mem_singleton, exists_eq_left] using h.new y b hb
    existNew x hx := by simpa only [List.mem_singleton, exists_eq_left] using h.existNew x hx
    reachUps := h.ups _ List.mem_cons_self
    kidsOrder := hkids
    frame x hx := h.frame x fun r hr => List.mem_singleton.mp hr ▸ hx
    exact := h.exact _ List.mem_cons_self
    wf := h.wf
    depth := h.depth
    files := h.files }

end Sedpack.Tree
