import SedpackProofs.TreeMerge
/-! Sessions over a dataset: appending closed shards, then merging per split, keeps every split's info exact. -/
namespace Sedpack.Tree

/-- the invariant of a dataset between sessions -/
structure Good (H : SList → Nat) (B : Nat) (ds : DS) : Prop where
  wf : WF ds.fs
  depth : DepthOK ds.fs B
  exact : ∀ s k, ds.splits s = some k → k.dir = [s] ∧ Exact H ds.fs k

theorem good_empty (H : SList → Nat) (B : Nat) : Good H B ⟨fun _ => none, fun _ => none⟩ :=
  ⟨nofun, nofun, nofun⟩

theorem sumF_append (a b : List Shard) : sumF (a ++ b) = sumF a + sumF b := by
  simp only [sumF, List.map_append, List.sum_append_nat]

theorem appendShards_wf (fs : FS) (d : Dir) (new : List Shard) (h : WF fs) : WF (appendShards fs d new) :=
  forall_set h ⟨by simp only [sumF_append, (h.getD d).sum, Nat.add_right_comm], (h.getD d).shape, (h.getD d).nodup⟩

theorem appendShards_depth (fs : FS) (d : Dir) (new : List Shard) (B : Nat) (h : DepthOK fs B) :
    DepthOK (appendShards fs d new) B :=
  forall_set h fun _ hc => h.subs (mem_subs_getD hc)

theorem appendShards_other (fs : FS) (d x : Dir) (new : List Shard) (h : x ≠ d) : appendShards fs d new x = fs x :=
  set_other _ _ _ _ h

theorem appendShards_kidsAt (fs : FS) (d : Dir) (new : List Shard) (y : Dir) : kidsAt (appendShards fs d new) y = kidsAt fs y := by
  rw [appendShards, kidsAt_set]; split
  · next h => rw [h, getD_kids]
  · rfl

theorem appendShards_files (fs : FS) (d : Dir) (new : List Shard) :
    filesAt (appendShards fs d new) d = filesAt fs d ++ new := by
  rw [appendShards, filesAt_set, if_pos rfl, getD_files]

def newAt (se : Session) (x : Dir) : List Shard := (se.filter (fun w => w.1 = x)).flatMap (·.2)

theorem mem_newAt {se : Session} {x : Dir} {s : Shard} : s ∈ newAt se x ↔ ∃ w ∈ se, w.1 = x ∧ s ∈ w.2 := by
  simp only [newAt, List.mem_flatMap, List.mem_filter, decide_eq_true_eq, and_assoc]

theorem applyWrites_kidsAt (se : Session) (fs : FS) (y : Dir) : kidsAt (applyWrites fs se) y = kidsAt fs y :=
  foldl_inv (P := fun f => kidsAt f y = kidsAt fs y) se fs rfl fun f w _ h => (appendShards_kidsAt f w.1 w.2 y).trans h

theorem applyWrites_reaches (se : Session) {fs : FS} {a x : Dir} (h : Reaches fs a x) : Reaches (applyWrites fs se) a x :=
  h.mono fun y => by rw [subs, subs, applyWrites_kidsAt]; exact fun _ h => h

theorem applyWrites_other (se : Session) (fs : FS) (x : Dir) (h : ∀ w ∈ se, w.1 ≠ x) : applyWrites fs se x = fs x :=
  foldl_inv (P := fun f => f x = fs x) se fs rfl fun f w hw hf => (appendShards_other f w.1 x w.2 (h w hw).symm).trans hf

theorem applyWrites_files (se : Session) (fs : FS) (x : Dir) : filesAt (applyWrites fs se) x = filesAt fs x ++ newAt se x := by
  induction se generalizing fs with
  | nil => exact (List.append_nil _).symm
  | cons w ws ih =>
    rw [show applyWrites fs (w :: ws) = applyWrites (appendShards fs w.1 w.2) ws from rfl, ih]
    simp only [newAt, List.filter_cons]
    split
    · next hwx => rw [← of_decide_eq_true hwx, appendShards_files, List.append_assoc]; rfl
    · next hwx => rw [filesAt_congr (appendShards_other _ _ _ _ fun e => hwx (decide_eq_true e.symm))]

theorem applyWrites_wf (se : Session) {fs : FS} (h : WF fs) : WF (applyWrites fs se) :=
  foldl_inv se fs h fun f w _ => appendShards_wf f w.1 w.2

theorem applyWrites_depth (se : Session) {fs : FS} {B : Nat} (h : DepthOK fs B) : DepthOK (applyWrites fs se) B :=
  foldl_inv se fs h fun f w _ => appendShards_depth f w.1 w.2 B

theorem applyWrites_append (fs : FS) (a b : Session) : applyWrites fs (a ++ b) = applyWrites (applyWrites fs a) b :=
  List.foldl_append

theorem applyWrites_keeps (se : Session) (fs : FS) (x : Dir) (h : fs x ≠ none) : applyWrites fs se x ≠ none :=
  foldl_inv (P := fun f => f x ≠ none) se fs h fun f _ _ => set_ne_none f _ _

theorem applyWrites_written (se : Session) : ∀ (fs : FS), ∀ w ∈ se, applyWrites fs se w.1 ≠ none := by
  induction se with
  | nil => exact fun _ _ h => nomatch h
  | cons v rest ih =>
    intro fs w hw
    rcases List.mem_cons.mp hw with rfl | hw'
    · exact applyWrites_keeps rest (appendShards fs w.1 w.2) w.1 (by unfold appendShards; rw [set_same]; nofun)
    · exact ih _ w hw'

theorem mem_dedup (x : Nat) : ∀ l : List Nat, x ∈ dedup l ↔ x ∈ l := by
  intro l
  induction l with
  | nil => rfl
  | cons a as ih => rw [dedup, mem_cons_filter_ne, ih, List.mem_cons]

theorem nodup_dedup : ∀ l : List Nat, (dedup l).Nodup := by
  intro l
  induction l with
  | nil => exact .nil
  | cons a as ih => exact List.nodup_cons.mpr ⟨fun h => of_decide_eq_true (List.mem_filter.mp h).2 rfl, ih.filter _⟩

theorem prefix_single_of_head {s : Nat} {d : Dir} (hne : d ≠ []) (hh : d.headD 0 = s) : [s] <+: d := by
  cases d with
  | nil => exact absurd rfl hne
  | cons a as => exact hh ▸ ⟨as, rfl⟩

theorem head_of_single_prefix {s : Nat} {x : Dir} (h : [s] <+: x) : x.headD 0 = s := by
  obtain ⟨t, ht⟩ := h; rw [← ht]; rfl

theorem single_prefix_unique {s s' : Nat} {x : Dir} (h : [s] <+: x) (h' : [s'] <+: x) : s = s' :=
  (head_of_single_prefix h).symm.trans (head_of_single_prefix h')

theorem mem_updatesOf {dirs : List Dir} {s : Nat} {u : Kid} :
    u ∈ updatesOf dirs s ↔ ∃ d ∈ dirs, d.headD 0 = s ∧ ⟨d, 0, 0, 0⟩ = u := by
  simp only [updatesOf, List.mem_map, List.mem_filter, decide_eq_true_eq, and_assoc]

theorem pre_updatesOf {B : Nat} {fs : FS} {dirs : List Dir} (s : Nat) (hwf : WF fs) (hd : DepthOK fs B) (hB : 1 ≤ B)
    (hdirs : ∀ d ∈ dirs, d ≠ [] ∧ d.length ≤ B) : Pre B fs [s] (updatesOf dirs s) := by
  refine ⟨hwf, hd, fun u hu => ?_, hB⟩
  obtain ⟨d, hd, hh, rfl⟩ := mem_updatesOf.mp hu
  exact ⟨prefix_single_of_head (hdirs d hd).1 hh, (hdirs d hd).2⟩

theorem mergeSplitsE_fst (H : SList → Nat) (fuel : Nat) (dirs : List Dir) (ss : List Nat) : ∀ ds : DS,
    (mergeSplitsE H fuel dirs ss ds).1 = mergeSplits H fuel dirs ss ds := by
  induction ss with
  | nil => exact fun _ => rfl
  | cons s ss ih => intro ds; rw [mergeSplitsE, ih, mergeE_fst]; rfl

theorem mergeSplits_merges (H : SList → Nat) (B fuel : Nat) (hfuel : B < fuel + 1) (hB : 1 ≤ B) (dirs : List Dir)
    (hdirs : ∀ d ∈ dirs, d ≠ [] ∧ d.length ≤ B) :
    ∀ (ss : List Nat) (ds : DS), ss.Nodup → WF ds.fs → DepthOK ds.fs B →
      ∃ ks, Merges H B ds.fs (ss.map fun s => ([s], updatesOf dirs s)) (mergeSplits H fuel dirs ss ds).fs ks
          (mergeSplitsE H fuel dirs ss ds).2 ∧
        (∀ s ∈ ss, ∃ k ∈ ks, (mergeSplits H fuel dirs ss ds).splits s = some k ∧ k.dir = [s]) ∧
        (∀ s, s ∉ ss → (mergeSplits H fuel dirs ss ds).splits s = ds.splits s) := by
  intro ss
  induction ss with
  | nil => intro ds _ hwf hd; exact ⟨[], .nil hwf hd, nofun, fun _ _ => rfl⟩
  | cons s ss ih =>
    intro ds hnd hwf hd
    rw [List.nodup_cons] at hnd
    have h1 := (merge_merges H B fuel ds.fs [s] (updatesOf dirs s) hfuel (pre_updatesOf s hwf hd hB hdirs)).1
    obtain ⟨ks, h2, hin, hout⟩ := ih ⟨(merge H fuel ds.fs [s] (updatesOf dirs s)).1,
      fun x => if x = s then some (merge H fuel ds.fs [s] (updatesOf dirs s)).2 else ds.splits x⟩ hnd.2 h1.wf h1.depth
    rw [mergeSplitsE, mergeE_fst]
    refine ⟨_ :: ks, h1.append h2 fun r hr r' hr' x hx hx' => ?_, fun s' hs' => ?_, fun s' hs' => ?_⟩
    · obtain ⟨s', hs', rfl⟩ := List.mem_map.mp hr'
      rw [List.mem_singleton.mp hr] at hx
      exact hnd.1 (single_prefix_unique hx hx' ▸ hs')
    · rcases List.mem_cons.mp hs' with rfl | hs'
      · exact ⟨_, List.mem_cons_self, (hout s' hnd.1).trans (if_pos rfl), h1.dir⟩
      · obtain ⟨k, hk, h⟩ := hin s' hs'
        exact ⟨k, List.mem_cons_of_mem _ hk, h⟩
    · rw [List.mem_cons, not_or] at hs'
      exact (hout s' hs'.2).trans (if_neg hs'.1)

theorem mergeSplits_splits_mono (H : SList → Nat) (fuel : Nat) (dirs : List Dir) (ss : List Nat) : ∀ (ds : DS) (s : Nat),
    ds.splits s ≠ none → (mergeSplits H fuel dirs ss ds).splits s ≠ none := by
  induction ss with
  | nil => exact fun _ _ h => h
  | cons a rest ih =>
    intro ds s h
    refine ih _ s ?_
    show (if s = a then _ else _) ≠ none
    split
    · nofun
    · exact h

theorem session_eq (H : SList → Nat) (fuel : Nat) (ds : DS) (se : Session) :
    session H fuel ds se = mergeSplits H fuel (se.map (·.1)) (dedup ((se.map (·.1)).map fun d => d.headD 0))
      ⟨applyWrites ds.fs se, ds.splits⟩ := rfl

structure SessionPost (H : SList → Nat) (B fuel : Nat) (ds : DS) (se : Session) : Prop where
  good : Good H B (session H fuel ds se)
  recorded : ∀ w ∈ se, ∃ k, (session H fuel ds se).splits (w.1.headD 0) = some k
  reach : ∀ s x, Reaches (applyWrites ds.fs se) [s] x → Reaches (session H fuel ds se).fs [s] x
  files : ∀ x, filesAt (session H fuel ds se).fs x = filesAt (applyWrites ds.fs se) x
  existNew : ∀ x, (session H fuel ds se).fs x ≠ none → applyWrites ds.fs se x ≠ none ∨ ∃ s, Reaches (session H fuel ds se).fs [s] x
  dirs : ∀ w ∈ se, Reaches (session H fuel ds se).fs [w.1.headD 0] w.1

theorem session_post (H : SList → Nat) (B fuel : Nat) (hfuel : B < fuel + 1) (hB : 1 ≤ B) (ds : DS) (se : Session)
    (hse : ∀ w ∈ se, w.1 ≠ [] ∧ w.1.length ≤ B) (hg : Good H B ds) : SessionPost H B fuel ds se := by
  have hss : ∀ w ∈ se, w.1.headD 0 ∈ dedup ((se.map (·.1)).map fun d => d.headD 0) := fun w hw =>
    (mem_dedup _ _).mpr (List.mem_map_of_mem (List.mem_map_of_mem hw))
  obtain ⟨ks, hm, hin, hout⟩ := mergeSplits_merges H B fuel hfuel hB _ (List.forall_mem_map.mpr hse) _ ⟨applyWrites ds.fs se, ds.splits⟩
    (nodup_dedup _) (applyWrites_wf se hg.wf) (applyWrites_depth se hg.depth)
  rw [← session_eq] at hm hin hout
  generalize dedup _ = ss at hss hm hin hout
  exact {
    good := ⟨hm.wf, hm.depth, fun s k hk => by
      by_cases hs : s ∈ ss
      · obtain ⟨k', hk', h1, h2⟩ := hin s hs
        cases hk.symm.trans h1
        exact ⟨h2, hm.exact k hk'⟩
      · -- a split the session did not write to: nothing below its root was touched
        obtain ⟨h1, h2⟩ := hg.exact s k ((hout s hs).symm.trans hk)
        refine ⟨h1, h2.frame fun x hx => ?_⟩
        rw [h1] at hx
        refine (hm.frame x fun r hr hrx => ?_).trans (applyWrites_other se ds.fs x fun w hw hwx => hs ?_)
        · obtain ⟨s', hs', rfl⟩ := List.mem_map.mp hr
          exact hs (single_prefix_unique hx hrx ▸ hs')
        · exact head_of_single_prefix (hwx ▸ hx) ▸ hss w hw⟩
    recorded w hw := by
      obtain ⟨k, _, h, _⟩ := hin _ (hss w hw)
      exact ⟨k, h⟩
    reach s x h := h.mono hm.kept
    files := hm.files
    existNew x hx := by
      refine (hm.existNew x hx).imp id ?_
      rintro ⟨r, hr, h⟩
      obtain ⟨s, _, rfl⟩ := List.mem_map.mp hr
      exact ⟨s, h⟩
    dirs w hw :=
      hm.ups ([w.1.headD 0], updatesOf (se.map (·.1)) (w.1.headD 0)) (List.mem_map.mpr ⟨_, hss w hw, rfl⟩) ⟨w.1, 0, 0, 0⟩
        (mem_updatesOf.mpr ⟨w.1, List.mem_map_of_mem hw, rfl, rfl⟩) }

end Sedpack.Tree
