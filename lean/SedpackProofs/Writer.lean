import SedpackModel.Writer
import SedpackProofs.Lists
/-! Each writer's `_write` is a transaction on what a reader decodes (one row more on `.ok`, nothing changed on an error);
`runW_rel` carries that through the base check and through any sequence of `write` calls. -/
namespace Sedpack.Writer

theorem payloads_length (ex : Ex) : (payloads ex).length = ex.length := by simp [payloads]

/-! ### npz: `colsOf` is transposition, `rows` is transposition back -/

section
variable (k : Nat) (acc : List (List Nat))

theorem zipWith_colsOf (p : List Nat) (hp : p.length = k) :
    List.zipWith (fun c x => c ++ [x]) (colsOf k acc) p = colsOf k (acc ++ [p]) := by
  -- write the new row as its `k` entries, so that both sides are maps over `range k`
  conv => lhs; rw [← map_range_length_getD p 0, hp]
  simp only [colsOf, List.zipWith_map, List.zipWith_self, List.map_append, List.map_cons, List.map_nil]

theorem npzWrite_fst (cols : NpzSt) (ex : Ex) : (npzWrite cols ex).1 =
    if (npzWrite cols ex).2 = .ok then List.zipWith (fun c p => c ++ [p]) cols (payloads ex) else cols := by
  unfold npzWrite
  split <;> rfl

theorem npzWrite_colsOf (ex : Ex) (hk : ex.length = k) : (npzWrite (colsOf k acc) ex).1 =
    colsOf k (acc ++ if (npzWrite (colsOf k acc) ex).2 = .ok then [payloads ex] else []) := by
  rw [npzWrite_fst]
  split
  · exact zipWith_colsOf k acc _ (by rw [payloads_length, hk])
  · rw [List.append_nil]

theorem rect_colsOf : rect (colsOf k acc) = true := by
  unfold colsOf
  cases k with
  | zero => rfl
  | succ n => rw [List.range_succ_eq_map]; simp [rect]

theorem rows_eq_colsOf : ∀ cols : NpzSt, rows cols = colsOf (cols.headD []).length cols
  | [] => rfl
  | _ :: _ => rfl

theorem colsOf_colsOf (hw : ∀ r ∈ acc, r.length = k) :
    colsOf acc.length (colsOf k acc) = acc := by
  refine List.ext_getElem (by simp [colsOf]) fun i _ h => ?_
  rw [← map_range_length_getD acc[i] 0, hw _ (List.getElem_mem h)]
  simp [colsOf, h]

theorem rows_colsOf (hk : 0 < k) (hw : ∀ r ∈ acc, r.length = k) :
    rows (colsOf k acc) = acc := by
  have hd : ((colsOf k acc).headD []).length = acc.length := by
    cases k with
    | zero => cases hk
    | succ n => simp [colsOf, List.range_succ_eq_map]
  rw [rows_eq_colsOf, hd, colsOf_colsOf k acc hw]

end

theorem fbLoop_ne_ok (ex : Ex) (j : Nat) : (fbLoop ex j).2 ≠ some .ok := by
  fun_induction fbLoop ex j <;> simp_all

theorem tfBuild_ne_ok (ex : Ex) (j : Nat) : tfBuild ex j ≠ some .ok := by
  fun_induction tfBuild ex j <;> simp_all

theorem baseCheck_ne_ok (attrs : Attrs) (ex : Ex) (j : Nat) : baseCheck attrs ex j ≠ some .ok := by
  fun_induction baseCheck attrs ex j <;> simp_all

theorem fbWrite_examples (s : FbSt) (ex : Ex) :
    (fbWrite s ex).1.examples = s.examples ++ if (fbWrite s ex).2 = .ok then [payloads ex] else [] := by
  have := fbLoop_ne_ok ex 0
  fun_cases fbWrite s ex <;> simp_all

theorem tfWrite_fst (s : TfSt) (ex : Ex) : (tfWrite s ex).1 =
    if (tfWrite s ex).2 = .ok then { opened := true, records := s.records ++ [payloads ex] } else s := by
  have := tfBuild_ne_ok ex 0
  fun_cases tfWrite s ex <;> simp_all

variable {S : Type} (w : S → Ex → S × Out) (attrs : Attrs)

theorem write_eq_or (s : S) (ex : Ex) :
    write w attrs s ex = w s ex ∨ (write w attrs s ex).1 = s ∧ (write w attrs s ex).2 ≠ .ok := by
  unfold write
  split
  · rename_i e he
    exact .inr ⟨rfl, fun h => baseCheck_ne_ok attrs ex 0 (he.trans (congrArg some h))⟩
  · exact .inl rfl

theorem write_rejected {α : Type} (view : S → α) (ex : Ex)
    (hw : ∀ s, (w s ex).2 ≠ .ok → view (w s ex).1 = view s) (s : S) (h : (write w attrs s ex).2 ≠ .ok) :
    view (write w attrs s ex).1 = view s := by
  rcases write_eq_or w attrs s ex with e | ⟨e, _⟩
  · rw [e] at h ⊢; exact hw s h
  · rw [e]

theorem write_verdict (ex : Ex) (hw : ∀ s s', (w s ex).2 = (w s' ex).2) (s s' : S) : (write w attrs s ex).2 = (write w attrs s' ex).2 := by
  unfold write
  split
  · rfl
  · exact hw s s'

theorem accepted_cons (ex : Ex) (es : List Ex) (o : Out) (os : List Out) :
    accepted (ex :: es) (o :: os) = (if o = .ok then [payloads ex] else []) ++ accepted es os := by
  cases o <;> rfl

theorem accepted_sublist (exs : List Ex) (outs : List Out) : (accepted exs outs).Sublist (exs.map payloads) := by
  fun_induction accepted exs outs with
  | case1 ex es os ih => exact ih.cons_cons _        -- `.ok`: the row is kept
  | case2 _ es _ os _ ih => exact ih.cons _          -- an error outcome: the row is skipped
  | case3 => exact List.nil_sublist _                -- one of the lists has ended

/-- `R s acc` relates a writer state to the rows written so far.  The premise is asked only for the examples offered, so that it
may depend on their width. -/
theorem runW_rel (R : S → List (List Nat) → Prop) (exs : List Ex)
    (hw : ∀ ex ∈ exs, ∀ s acc, R s acc → R (w s ex).1 (acc ++ if (w s ex).2 = .ok then [payloads ex] else []))
    (s : S) (acc : List (List Nat)) (h : R s acc) :
    R (runW w attrs s exs).1 (acc ++ accepted exs (runW w attrs s exs).2) := by
  induction exs generalizing s acc with
  | nil => simpa [runW, accepted] using h
  | cons ex rest ih =>
    simp only [runW, accepted_cons, ← List.append_assoc]
    refine ih (fun e he => hw e (List.mem_cons_of_mem _ he)) _ _ ?_
    rcases write_eq_or w attrs s ex with e | ⟨e1, e2⟩
    · rw [e]; exact hw ex List.mem_cons_self s acc h
    · rw [e1, if_neg e2, List.append_nil]; exact h

theorem npz_run (k : Nat) (exs : List Ex) (acc : List (List Nat)) (hw : ∀ ex ∈ exs, ex.length = k) :
    (runW npzWrite attrs (colsOf k acc) exs).1 = colsOf k (acc ++ accepted exs (runW npzWrite attrs (colsOf k acc) exs).2) :=
  runW_rel npzWrite attrs (fun s acc => s = colsOf k acc) exs
    (fun ex hex _ acc hs => hs ▸ npzWrite_colsOf k acc ex (hw ex hex)) _ acc rfl

theorem accepted_width (k : Nat) (exs : List Ex) (outs : List Out) (hw : ∀ ex ∈ exs, ex.length = k) :
    ∀ r ∈ accepted exs outs, r.length = k := by
  intro r hr
  obtain ⟨ex, hex, rfl⟩ := List.mem_map.1 ((accepted_sublist exs outs).subset hr)
  rw [payloads_length, hw ex hex]

end Sedpack.Writer
