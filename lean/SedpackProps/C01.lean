import SedpackProofs.Codec
import SedpackProps.C01Gen
/-!
# C01 — round-trip fidelity: every value read equals the value written

What is sedpack's own in the write→read path (byte-order decision, C-order flatten / reshape,
little-endian element encoding, integer widening, which codec is paired with which) is M-CODEC and
the generated tables; everything below is proved for every element width, shape, rank, memory
layout, byte-order tag, host and bit pattern.  The containers and codecs themselves (FlatBuffers,
npz, TFRecord, gzip, …) are external: their laws are explicit hypotheses of `C01_pipeline`, and the
end-to-end correspondence check exercises them on every run.
-/
namespace Sedpack.Codec
open Gen

/-- **Little-endian element round trip**: any bit pattern of a `k`-byte element survives. -/
theorem C01_le_roundtrip (k v : Nat) (h : v < 256 ^ k) :
    decodeLE (encodeLE k v) = v ∧ (encodeLE k v).length = k ∧ ∀ b ∈ encodeLE k v, b < 256 :=
  ⟨decode_encode k v h, encodeLE_length k v, encodeLE_lt k v⟩

/-- distinct bit patterns are stored as distinct bytes (nothing is conflated: NaN payloads, −0.0 …) -/
theorem C01_le_injective (k v w : Nat) (hv : v < 256 ^ k) (hw : w < 256 ^ k)
    (h : encodeLE k v = encodeLE k w) : v = w := by
  rw [← decode_encode k v hv, ← decode_encode k w hw, h]

/-- **Byte order**: whatever the dtype's byte-order tag and the host, the stored bytes are the
little-endian bytes of the element. -/
theorem C01_stored_is_little_endian (t : Tag) (h : Host) (k v : Nat) : storedBytes t h k v = encodeLE k v := by
  cases t <;> cases h <;> simp [storedBytes, writerSwaps, memBytes]

/-- only →: the converse fails for elements whose byte string is a palindrome -/
theorem C01_swaps_iff_memory_big_endian (t : Tag) (h : Host) (k v : Nat) :
    writerSwaps t h = true → memBytes t h k v = (encodeLE k v).reverse := by
  cases t <;> cases h <;> simp [writerSwaps, memBytes]

/-- **C order**: flatten then reshape returns every element at its own multi-index, for every rank
and shape and every memory layout of the input (`elem` is arbitrary). -/
theorem C01_flatten_reshape (shape : List Nat) (elem : List Nat → Nat) (idx : List Nat) (h : InBounds shape idx) :
    reshapeGet shape (flattenC shape elem) idx = some (elem idx) := by
  rw [reshapeGet, flattenC, List.getElem?_map, indices_get shape idx h]; rfl

theorem C01_c_order_bijection (shape : List Nat) :
    (∀ idx, InBounds shape idx → ravel shape idx < size shape ∧ unravel shape (ravel shape idx) = idx) ∧
    (∀ n, n < size shape → InBounds shape (unravel shape n) ∧ ravel shape (unravel shape n) = n) :=
  ⟨fun idx h => (ravel_eq_iff shape idx _).1 ⟨h, rfl⟩, fun n h => (ravel_eq_iff shape _ n).2 ⟨h, rfl⟩⟩

/-- **A whole FlatBuffers attribute**: decoding the stored byte vector gives back, at every multi-index, the bit
pattern that was written there; the vector is `size shape * k` bytes long. -/
theorem C01_attribute_roundtrip (t : Tag) (h : Host) (k : Nat) (shape : List Nat) (elem : List Nat → Nat)
    (hel : ∀ idx, elem idx < 256 ^ k) (idx : List Nat) (hin : InBounds shape idx) :
    decodeAttr k shape (encodeAttr t h k shape elem) idx = some (elem idx) ∧
    (encodeAttr t h k shape elem).length = size shape * k := by
  have hst : storedBytes t h k = encodeLE k := funext (C01_stored_is_little_endian t h k)
  constructor
  · -- the decoded list is the flattening of `decodeLE ∘ encodeLE k ∘ elem`
    rw [decodeAttr, encodeAttr, hst, ← flattenC_length shape elem, groups_flatMap k _ (encodeLE_length k), flattenC,
      List.map_map, List.map_map]
    exact (C01_flatten_reshape shape _ idx hin).trans (congrArg some (decode_encode k _ (hel idx)))
  · simp only [encodeAttr, hst, List.length_flatMap, encodeLE_length, List.map_const', List.sum_replicate_nat,
      flattenC_length]

/-- With `k = 0` (dtype "bytes"/"str" in a FlatBuffers dataset, numpy itemsize 0) every element is stored as
no bytes at all.  The round trip above still holds, but only because `hel` then admits no pattern but 0: whatever
content the elements had is lost. -/
theorem C01_zero_width_stores_nothing (t : Tag) (h : Host) (shape : List Nat) (elem : List Nat → Nat) :
    encodeAttr t h 0 shape elem = [] := by
  simp [encodeAttr, C01_stored_is_little_endian, encodeLE]

/-- **Two's complement**: an in-range integer is recovered from its bit pattern. -/
theorem C01_int_pattern_roundtrip (k : IntKind) (hb : 0 < k.bits) (v : Int) (h : k.holds v) :
    ofPattern k (toPattern k v) = v ∧ toPattern k v < 2 ^ k.bits :=
  ⟨pattern_roundtrip k hb v h, toPattern_lt k v⟩

def castOk (src dst : String) : Bool :=
  match intKindOf src, intKindOf dst with
  | some s, some d => decide (0 < d.bits) && rangeIncl s d
  | _, _ => false

theorem castOk_sound (src dst : String) (h : castOk src dst = true) :
    ∃ s d, intKindOf src = some s ∧ intKindOf dst = some d ∧ 0 < d.bits ∧
      ∀ v : Int, s.holds v → d.holds v ∧ ofPattern d (toPattern d v) = v := by
  unfold castOk at h
  split at h
  next s d hs hd =>
    rw [Bool.and_eq_true, decide_eq_true_eq] at h
    exact ⟨s, d, hs, hd, h.1, fun v hv =>
      have hdv := rangeIncl_holds s d h.2 v hv
      ⟨hdv, pattern_roundtrip d h.1 v hdv⟩⟩
  next => cases h

/-- **Safe integer cast**: every pair numpy calls "safe" (generated table) is a range inclusion, so a
value written through a narrower integer dtype is stored with its exact value. -/
theorem C01_safe_int_casts_preserve_value :
    ∀ p ∈ npSafeIntCasts, ∃ s d, intKindOf p.1 = some s ∧ intKindOf p.2 = some d ∧ 0 < d.bits ∧
      ∀ v : Int, s.holds v → d.holds v ∧ ofPattern d (toPattern d v) = v := by
  have key : ∀ p ∈ npSafeIntCasts, castOk p.1 p.2 = true := by decide +kernel
  exact fun p hp => castOk_sound _ _ (key p hp)

/-- **TFRecord integers**: every dtype the encoder stores as an Int64List (generated table) is an
integer kind whose whole range fits int64, and the decoder parses it as int64. -/
theorem C01_tfrec_ints_widen_exactly :
    ∀ p ∈ tfrecEncode, p.2 = "int64" →
      (∃ s, intKindOf p.1 = some s ∧ ∀ v : Int, s.holds v → int64.holds v ∧ ofPattern int64 (toPattern int64 v) = v) ∧
      tfrecDecode.lookup p.1 = some "int64" := by
  have key : ∀ p ∈ tfrecEncode, p.2 = "int64" → castOk p.1 "int64" = true ∧ tfrecDecode.lookup p.1 = some "int64" := by
    decide +kernel
  intro p hp he
  obtain ⟨s, d, h1, hd, _, h2⟩ := castOk_sound _ _ (key p hp he).1
  cases Option.some.inj hd
  exact ⟨⟨s, h1, h2⟩, (key p hp he).2⟩

/-- TFRecord: a FloatList is float32.  A supported dtype (`tfrecSupported`: written and parsed as the same kind) that is written
as `float` is float32 itself; `float64` is written as `float` but parsed as float64 — not a supported combination. -/
theorem C01_tfrec_float_is_float32 : ∀ p ∈ tfrecEncode, p.2 = "float" → p.1 ∈ tfrecSupported → p.1 = "float32" := by
  decide +kernel

/-- **Codec pairing**: every compression name is decompressed by the codec family that compressed it,
in Python and in the Rust reader (generated from both match statements). -/
theorem C01_codecs_paired :
    (∀ p ∈ pyCompress, pyDecompress.lookup p.1 = some p.2) ∧
    (∀ c ∈ (compressions.lookup "CompressedFile").getD [], (pyCompress.lookup c).isSome) ∧
    (∀ p ∈ rustFromStr, ∃ fam, (rustDecode.lookup p.2) = some fam ∧ pyCompress.lookup p.1 = some fam) := by
  decide +kernel

/-- **The pipeline**: with a container whose `parse` inverts `build`, and a codec whose `decompress`
inverts `compress` (the external laws; trusted, exercised by the correspondence check), writing then
reading gives back what sedpack's own encoding step hands to the container.  Not stated here: by
`C01_attribute_roundtrip` that decodes to the written bit patterns. -/
theorem C01_pipeline {Ex File : Type} (build : Ex → File) (parse : File → Option Ex)
    (compress decompress : File → File)
    (hcontainer : ∀ e, parse (build e) = some e) (hcodec : ∀ f, decompress (compress f) = f) (e : Ex) :
    parse (decompress (compress (build e))) = some e := by
  rw [hcodec, hcontainer]

-- float32 1.0 = 0x3F800000 on a little-endian host, native tag
example : storedBytes .native .littleEndian 4 0x3F800000 = [0x00, 0x00, 0x80, 0x3F] := by decide +kernel
-- the same element on a big-endian host: memory holds 3F 80 00 00, the writer swaps
example : memBytes .native .bigEndian 4 0x3F800000 = [0x3F, 0x80, 0x00, 0x00] ∧ writerSwaps .native .bigEndian = true := by decide +kernel
-- a 2×3 array given in Fortran order (memory [0,3,1,4,2,5] holds logical a[i][j] = 3i+j)
example : flattenC [2, 3] (fun idx => match idx with | [i, j] => 3 * i + j | _ => 0) = [0, 1, 2, 3, 4, 5] := by decide +kernel
example : InBounds [2, 3] [1, 2] ∧ ravel [2, 3] [1, 2] = 5 := by decide +kernel
-- rank 0: one element, one index
example : indices [] = [[]] ∧ size [] = 1 := by decide +kernel
example : (⟨8, true⟩ : IntKind).holds (-128) ∧ toPattern ⟨8, true⟩ (-128) = 128 ∧ ofPattern ⟨8, true⟩ 128 = -128 := by decide +kernel
example : tfrecSupported = ["int8", "uint8", "int32", "int64", "float16", "float32", "str", "bytes"] := by decide +kernel

end Sedpack.Codec
