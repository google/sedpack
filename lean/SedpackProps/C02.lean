import SedpackProofs.Pipe
import SedpackProofs.Lists
/-!
# C02 — Exactly-once delivery: one pass yields precisely the split's examples

Stage theorems (every random state / schedule is a run of the corresponding monitor) and their
composition into the public interfaces.  `paths` is the selected shard list of the split in
enumeration order (C12 / M-TREE say which shards those are), `ex p` the examples stored in shard
`p`, `g` the caller's transformation; a yielded list is "exactly the split's examples, `g`
applied once to each" iff it is a permutation of `(paths.flatMap ex).map g`.
Quantifiers: every shuffle size, every `file_parallelism ≥ 1`, every shard layout, every run.
`tf.data` and the Rust reader's scheduling are specified externals (C15 covers the Rust protocol).
-/
namespace Sedpack.Pipe
open Sedpack.Iter

/-- shuffle buffer: every complete run yields a permutation of its source -/
theorem C02_shuffle_buffer_perm (b : Nat) (xs out : List Nat) (h : SBRun b xs out) : out.Perm xs :=
  SBRun_perm h

/-- round robin: every complete run yields a permutation of the concatenated inner iterables -/
theorem C02_round_robin_perm (b : Nat) (ls : List (List Nat)) (out : List Nat) (h : RRRun b ls out) :
    out.Perm ls.flatten := RRRun_perm h

/-- round robin cannot finish before it has seen the end of the outer stream (no inner iterable is left unopened) -/
theorem C02_round_robin_opens_all (b : Nat) (hb : 0 < b) (tr : List RRLbl) (s : RR)
    (ha : RR.accepts (RR.init b) tr = some s) (hf : s.finished = true) : s.outerDone = true := by
  have hi := rr_inv_reach (rr_accepts_reach ha)
  obtain ⟨h1, h2, h3⟩ := hi.done hf
  exact hi.allOpened hb h1 h2 h3

/-- lazy pool: the results of a normally ended pass are one per input -/
theorem C02_pool_perm (T n : Nat) (order : List Nat) (h : PoolRun T n order) : order.Perm (List.range n) :=
  PoolRun_perm h

/-- the unshuffled concurrent path: concatenating the batches gives back the shard list -/
theorem C02_batches_concat (T : Nat) (hT : 0 < T) (ps : List α) :
    (batches T (ps.length + 1) ps).flatten = ps := batches_flatten T hT _ ps (Nat.lt_succ_self _)

/-- `as_numpy_iterator`, one pass: exactly the examples of the selected shards, `g` once each -/
theorem C02_exactly_once_sync (shuffle : Nat) (paths : List Nat) (ex : Nat → List Nat) (g : Nat → Nat)
    (out : List Nat) (h : SyncRun shuffle paths ex g out) : out.Perm ((paths.flatMap ex).map g) := by
  obtain ⟨ps, hps, hout⟩ := h
  have hp := (paths_examples_perm hps ex).map g
  simp only at hout
  split at hout
  · rw [hout]; exact hp
  · exact (SBRun_perm hout).trans hp

/-- `as_numpy_iterator_concurrent`, one pass, every `file_parallelism ≥ 1`, every schedule -/
theorem C02_exactly_once_concurrent (shuffle T : Nat) (hT : 0 < T) (paths : List Nat) (ex : Nat → List Nat)
    (g : Nat → Nat) (out : List Nat) (h : ConcurrentRun shuffle T paths ex g out) :
    out.Perm ((paths.flatMap ex).map g) := by
  obtain ⟨ps, hps, hout⟩ := h
  have hp := (paths_examples_perm hps ex).map g
  split at hout
  · rw [hout, batches_flatMap_eq T hT, ← List.map_flatMap]; exact hp
  · obtain ⟨order, hpool, hrr⟩ := hout
    refine ((RRRun_perm hrr).trans ?_).trans hp
    -- both sides as a `flatMap` over shard positions; the pool's `order` is a permutation of `range ps.length`
    rw [← List.flatMap_def, List.map_flatMap, ← range_flatMap_getD ps 0]
    exact (PoolRun_perm hpool).flatMap_right _

/-- `as_numpy_iterator_async`, one pass -/
theorem C02_exactly_once_async (shuffle T : Nat) (paths : List Nat) (ex : Nat → List Nat)
    (g : Nat → Nat) (out : List Nat) (h : AsyncRun shuffle T paths ex g out) :
    out.Perm ((paths.flatMap ex).map g) := by
  obtain ⟨ps, hps, mid, hmid, hout⟩ := h
  have hp := (paths_examples_perm hps ex).map g
  rw [hout]
  split at hmid
  · rw [hmid]; exact hp
  · have := (RRRun_perm hmid).map g
    rw [← List.flatMap_def] at this
    exact this.trans hp

/-- Consequences spelled out: nothing missing, nothing duplicated, nothing foreign. -/
theorem C02_counts (out expected : List Nat) (h : out.Perm expected) (a : Nat) :
    out.count a = expected.count a ∧ out.length = expected.length := ⟨h.count_eq a, h.length_eq⟩

/-- Non-vacuity of `SBRun`. -/
example : SBRun 2 [1, 2, 3] [2, 3, 1] :=
  ⟨[.pull (some 1), .pull (some 2), .pull (some 3), .yield 2, .pull none, .yield 3, .yield 1, .finish], _, rfl, rfl, rfl, rfl⟩

/-- Non-vacuity of `RRRun`. -/
example : RRRun 1 [[1, 2], [3]] [1, 2, 3] :=
  ⟨[.openInner 0 [1, 2], .yield 0 1, .yield 0 2, .innerEnd 0, .openInner 1 [3], .yield 1 3, .innerEnd 1, .outerEnd, .finish],
   _, rfl, rfl, rfl, rfl, rfl⟩

end Sedpack.Pipe
