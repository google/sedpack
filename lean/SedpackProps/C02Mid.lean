import SedpackProps.C02
/-!
# C02 in the middle of a pass (early stop, abandoned iterators)

`C02_shuffle_buffer_perm` / `C02_round_robin_perm` speak about complete runs, but a consumer may stop anywhere (`take(k)`, a
`break`, an exception downstream).  Here the conservation law at *every* reachable state of the monitors: what an early-stopping
consumer has received is a sub-multiset of the split, and the remainder is still where the model says it is.
-/
namespace Sedpack.Iter

/-- **Shuffle buffer, every moment**: pulled = yielded + buffered + in hand, as multisets. -/
theorem C02_shuffle_buffer_conserves (b : Nat) (s : SB) (h : SBReach b s) :
    s.pulled.Perm (s.out ++ s.buf ++ pendL s) := (sb_inv_reach h).perm

/-- **Round robin, every moment**: the elements of all opened shards = yielded + unread rests of the open ones. -/
theorem C02_round_robin_conserves (b : Nat) (s : RR) (h : RRReach b s) :
    s.pulledAll.Perm (s.out ++ restOf s.open_) := (rr_inv_reach h).perm

/-- hence an early-stopping consumer has received everything pulled from the source except a remainder that is still in
the buffer — at most `b + 1` elements (the read-ahead of C14), none of them lost.  `hb` is not used: the bound
holds for `b = 0` too. -/
theorem C02_shuffle_buffer_partial (b : Nat) (hb : 0 < b) (s : SB) (h : SBReach b s) :
    ∃ rest, s.pulled.Perm (s.out ++ rest) ∧ rest.length ≤ b + 1 :=
  ⟨s.buf ++ pendL s, List.append_assoc .. ▸ (sb_inv_reach h).perm,
    List.length_append ▸ Nat.add_le_add (sb_inv_reach h).bufle (pendL_length_le s)⟩

end Sedpack.Iter
