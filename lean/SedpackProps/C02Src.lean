import SedpackProps.SrcGen
/-!
# C02 — a pass is computed from the description as it is now, in the current source

`C02_end_to_end` speaks about one pass over "the shards of the split": the list the walk enumerates when the pass starts.  That is
the code's behaviour only if the reading side keeps nothing on the dataset object between passes (no cached path list, no
remembered selection).  Re-checked against the source text extracted on this run.

`hasSelfStore` (here and in C03, C11, C12, C19): `selfStoreEvents` lists the `selfset:` / `selfaug:` events `extract_order.py` emitted
for the nine reading-side functions, and is empty on the current source, so every such conjunct holds by that alone, whatever the
table; it fails for the function concerned as soon as one is emitted.  That a store on `self` is marked is the extractor's part.
-/
namespace Sedpack.Src

/-- none of the reading-side functions stores anything on `self` (no such event was extracted: see above) -/
theorem C02_src_readers_keep_no_state :
    (hasSelfStore shardInfoIterator || hasSelfStore shardInfoWalk || hasSelfStore shardPathsDataset || hasSelfStore asNumpyCommon || hasSelfStore asNumpyIterator
      || hasSelfStore asNumpyIteratorConcurrent || hasSelfStore asNumpyIteratorAsync || hasSelfStore asNumpyIteratorRust
      || hasSelfStore asTfdataset) = false := by decide +kernel
/-- every pass through a Python interface starts by enumerating the shard infos again: `as_numpy_common` and `as_tfdataset` begin
with `shard_paths_dataset`, which begins with `shard_info_iterator`, and the three Python NumPy interfaces begin with
`as_numpy_common` (`as_numpy_iterator_rust` goes through `RustGenerator` and has no conjunct) -/
theorem C02_src_pass_starts_from_the_description :
    (asNumpyCommon.head? == some "shard_paths_dataset" && shardPathsDataset.head? == some "shard_info_iterator"
      && asTfdataset.head? == some "shard_paths_dataset"
      && asNumpyIterator.head? == some "as_numpy_common" && asNumpyIteratorConcurrent.head? == some "as_numpy_common"
      && asNumpyIteratorAsync.head? == some "as_numpy_common") = true := by decide +kernel

/-- the recursive walk reads each list file when it reaches it: one `read_text`, before the list is parsed, and the parse before
anything is yielded -/
theorem C02_src_walk_reads_then_yields :
    (allBefore shardInfoWalk "read_text" "model_validate_json" && allBefore shardInfoWalk "model_validate_json" "yieldfrom"
      && occurrences shardInfoWalk "read_text" == 1) = true := by decide +kernel

end Sedpack.Src
