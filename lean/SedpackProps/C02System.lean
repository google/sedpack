import SedpackProps.C04
import SedpackProps.C02
import SedpackProps.C03System
import SedpackProps.C15
/-!
# C02, end to end: the multiset of examples a reader gets is the multiset that was written

Abstract specification: a split *is* a multiset of examples; a completed session adds the examples of the shards it closed
for that split.  Concrete system: the shard-list tree of M-TREE after `write_config`, enumerated depth-first.  For every
history of completed sessions — root, sub-directory and nested fillers, multi-writer calls, any interleaving of splits — with
freshly named shard files, the examples enumerated for a split are a permutation of everything the sessions stored for it;
composed with the pipeline theorems of `C02.lean`, that is what every iteration interface delivers in one pass.
-/
namespace Sedpack.Tree

/-- `System.examples` is the same function -/
def examplesOf (l : List Shard) : List Nat := l.flatMap (·.exs)

theorem C02_session_examples_perm (H : SList → Nat) (B fuel : Nat) (hfuel : B < fuel + 1) (hB : 1 ≤ B) (ds : DS) (se : Session)
    (hse : ∀ w ∈ se, w.1 ≠ [] ∧ w.1.length ≤ B) (hg : Good H B ds) (hl : Linked ds.fs) (hn : NamesOK ds.fs) (hf : FreshSession ds.fs se)
    (s : Nat) :
    (examplesOf (shardsOf fuel (session H fuel ds se).fs [s])).Perm
      (examplesOf (shardsOf fuel ds.fs [s]) ++ examplesOf (newFor se s)) := by
  simpa [examplesOf] using (session_perm H B fuel hfuel hB ds se hse hg hl hn hf s).flatMap_right (·.exs)

theorem C02_history_examples_perm (H : SList → Nat) (B fuel : Nat) (hfuel : B < fuel + 1) (hB : 1 ≤ B) (s : Nat) :
    ∀ (hist : List Session) (ds : DS), Good H B ds → Linked ds.fs → NamesOK ds.fs →
      (∀ se ∈ hist, ∀ w ∈ se, w.1 ≠ [] ∧ w.1.length ≤ B) → FreshHistory H fuel ds hist →
      (examplesOf (shardsOf fuel (hist.foldl (session H fuel) ds).fs [s])).Perm
        (examplesOf (shardsOf fuel ds.fs [s]) ++ hist.flatMap (fun se => examplesOf (newFor se s))) := by
  intro hist
  induction hist with
  | nil => intro ds _ _ _ _ _; simp
  | cons se rest ih =>
    intro ds hg hl hn hh hfresh
    obtain ⟨hse, hh⟩ := List.forall_mem_cons.1 hh
    rw [List.foldl_cons, List.flatMap_cons, ← List.append_assoc]
    exact (ih _ (session_post H B fuel hfuel hB ds se hse hg).good (session_linked H B fuel hfuel hB ds se hse hg hl)
      (session_namesOK H B fuel hfuel hB ds se hse hg hn hfresh.1) hh hfresh.2).trans
      ((C02_session_examples_perm H B fuel hfuel hB ds se hse hg hl hn hfresh.1 s).append_right _)

/-- from the empty dataset: the enumeration holds exactly (as a multiset) what the sessions stored for the split -/
theorem C02_written_is_enumerated (H : SList → Nat) (B fuel : Nat) (hfuel : B < fuel + 1) (hB : 1 ≤ B) (s : Nat) (hist : List Session)
    (hh : ∀ se ∈ hist, ∀ w ∈ se, w.1 ≠ [] ∧ w.1.length ≤ B)
    (hfresh : FreshHistory H fuel { fs := fun _ => none, splits := fun _ => none } hist) :
    (examplesOf (shardsOf fuel (hist.foldl (session H fuel) { fs := fun _ => none, splits := fun _ => none }).fs [s])).Perm
      (hist.flatMap (fun se => examplesOf (newFor se s))) := by
  have h := C02_history_examples_perm H B fuel hfuel hB s hist _ (good_empty H B) (fun _ hx => absurd rfl hx)
    C04_empty_namesOK hh hfresh
  have h0 : examplesOf (shardsOf fuel (fun _ => none : FS) [s]) = [] := by
    cases fuel <;> simp [shardsOf, examplesOf]
  simpa [h0] using h

end Sedpack.Tree

namespace Sedpack.Pipe
open Sedpack.Tree

/-- `as_numpy_iterator_rust(repeat=False)`: the (optionally shuffled) shard list is handed to `parallel_map` with `m = min(T, #shards)`
worker threads; a full pass of M-PMAP (any interleaving of the worker threads) returns shard positions, each shard's examples
are served in order, and the examples go through the shuffle buffer when shuffling is on -/
def RustRun (shuffle : Nat) (paths : List Nat) (ex : Nat → List Nat) (out : List Nat) : Prop :=
  ∃ ps, PathsRun shuffle paths ps ∧ ∃ mid,
    ((ps = [] ∧ mid = []) ∨
     ∃ (c : PMap.Cfg) (s : PMap.St), PMap.Good c ∧ PMap.Reach c s ∧ 0 < c.m ∧ s.ended = true ∧ s.dropped = false ∧
       c.nq * c.m + c.nr = ps.length ∧ mid = (s.out.map (PMap.idx c.m)).flatMap (fun k => ex (ps.getD k 0))) ∧
    (if shuffle = 0 then out = mid else SBRun shuffle mid out)

/-- The Rust reader refines `as_numpy_iterator`: a full pass of `parallel_map` returns the shards in list order
(`C15_full_pass_is_the_input`), so every output of the Rust reader is one the synchronous reader can produce. -/
theorem RustRun.sync {shuffle : Nat} {paths : List Nat} {ex : Nat → List Nat} {out : List Nat}
    (h : RustRun shuffle paths ex out) : SyncRun shuffle paths ex id out := by
  obtain ⟨ps, hps, mid, hmid, hout⟩ := h
  refine ⟨ps, hps, ?_⟩
  have hm : mid = ps.flatMap ex := by
    rcases hmid with ⟨h1, h2⟩ | ⟨c, s, g, hr, hm, he, hd, hlen, hmid⟩
    · rw [h1, h2]; rfl
    · rw [hmid, PMap.C15_full_pass_is_the_input c g s hr hm he hd, hlen, range_flatMap_getD]
  rw [List.map_id, ← hm]
  exact hout

theorem C02_exactly_once_rust (shuffle : Nat) (paths : List Nat) (ex : Nat → List Nat) (out : List Nat)
    (h : RustRun shuffle paths ex out) : out.Perm (paths.flatMap ex) := by
  simpa using C02_exactly_once_sync shuffle paths ex id out h.sync

/-- `System.shardEx` is the same function -/
def exOf (L : List Shard) (i : Nat) : List Nat := (L[i]?.map (·.exs)).getD []

inductive Pass (L : List Shard) (out : List Nat) : Prop
  | sync (shuffle : Nat) : SyncRun shuffle (List.range L.length) (exOf L) id out → Pass L out
  | concurrent (shuffle T : Nat) : 0 < T → ConcurrentRun shuffle T (List.range L.length) (exOf L) id out → Pass L out
  | async (shuffle T : Nat) : AsyncRun shuffle T (List.range L.length) (exOf L) id out → Pass L out
  | rust (shuffle : Nat) : RustRun shuffle (List.range L.length) (exOf L) out → Pass L out

theorem pass_perm {L : List Shard} {out : List Nat} (h : Pass L out) : out.Perm (examplesOf L) := by
  -- `exOf` / `examplesOf` unfold to the same terms as `System.shardEx` / `System.examples`
  have h2 : (List.range L.length).flatMap (exOf L) = examplesOf L := Sedpack.System.flatMap_shardEx L
  rw [← h2, ← List.map_id (List.flatMap _ _)]
  cases h with
  | sync shuffle hrun => exact C02_exactly_once_sync shuffle _ _ id out hrun
  | concurrent shuffle T hT hrun => exact C02_exactly_once_concurrent shuffle T hT _ _ id out hrun
  | async shuffle T hrun => exact C02_exactly_once_async shuffle T _ _ id out hrun
  | rust shuffle hrun => exact C02_exactly_once_sync shuffle _ _ id out hrun.sync

/-- **Every interface (the three pure-Python ones and the Rust reader), any shuffle size, any read parallelism, any schedule,
after any history**: one full pass over the split delivers a permutation of everything the history stored for it. -/
theorem C02_end_to_end (H : SList → Nat) (B fuel : Nat) (hfuel : B < fuel + 1) (hB : 1 ≤ B) (s : Nat) (hist : List Session)
    (hh : ∀ se ∈ hist, ∀ w ∈ se, w.1 ≠ [] ∧ w.1.length ≤ B)
    (hfresh : FreshHistory H fuel { fs := fun _ => none, splits := fun _ => none } hist) (out : List Nat)
    (hrun : Pass (shardsOf fuel (hist.foldl (session H fuel) { fs := fun _ => none, splits := fun _ => none }).fs [s]) out) :
    out.Perm (hist.flatMap (fun se => examplesOf (newFor se s))) :=
  (pass_perm hrun).trans (C02_written_is_enumerated H B fuel hfuel hB s hist hh hfresh)

end Sedpack.Pipe
