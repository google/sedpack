import SedpackProofs.Pipe
import SedpackProps.C11
/-!
# C03 — Unshuffled iteration is deterministic and preserves write order

With `shuffle = 0` every Python interface's output *equals* a function of the on-disk state alone
(`paths` in enumeration order, `ex`), hence is identical across passes, after reopening, and for
every `file_parallelism` and thread timing.  (For the Rust reader: `C03_rust_unshuffled_eq` in `C03Rust.lean`.)
The enumeration order itself (own shard files in list order, then children depth-first; children
of one merge in update order) is M-TREE's `C03_*` part in `C04.lean`.
-/
namespace Sedpack.Pipe
open Sedpack.Iter

/-- `as_numpy_iterator(shuffle=0)`: equal to the shards' examples in enumeration order -/
theorem C03_sync_unshuffled_eq (paths : List Nat) (ex : Nat → List Nat) (g : Nat → Nat) (out : List Nat)
    (h : SyncRun 0 paths ex g out) : out = (paths.flatMap ex).map g := by
  obtain ⟨ps, hps, hout⟩ := h
  simp [PathsRun] at hps hout
  rw [hout, hps]

/-- `as_numpy_iterator_concurrent(shuffle=0)`: the same list for **every** `file_parallelism ≥ 1`
(batches of an ordered executor map, chained in order) -/
theorem C03_concurrent_unshuffled_eq (T : Nat) (hT : 0 < T) (paths : List Nat) (ex : Nat → List Nat)
    (g : Nat → Nat) (out : List Nat) (h : ConcurrentRun 0 T paths ex g out) :
    out = (paths.flatMap ex).map g := by
  obtain ⟨ps, hps, hout⟩ := h
  simp [PathsRun] at hps hout
  subst hps
  rw [hout, batches_flatMap_eq T hT, List.map_flatMap]

/-- `as_numpy_iterator_async(shuffle=0)` -/
theorem C03_async_unshuffled_eq (T : Nat) (paths : List Nat) (ex : Nat → List Nat) (g : Nat → Nat)
    (out : List Nat) (h : AsyncRun 0 T paths ex g out) : out = (paths.flatMap ex).map g := by
  obtain ⟨ps, hps, mid, hmid, hout⟩ := h
  simp [PathsRun] at hps hmid
  rw [hout, hmid, hps]

theorem C03_interfaces_agree (T T' : Nat) (hT : 0 < T) (paths : List Nat) (ex : Nat → List Nat) (g : Nat → Nat)
    (o1 o2 o3 : List Nat) (h1 : SyncRun 0 paths ex g o1) (h2 : ConcurrentRun 0 T paths ex g o2)
    (h3 : AsyncRun 0 T' paths ex g o3) : o1 = o2 ∧ o2 = o3 := by
  rw [C03_sync_unshuffled_eq _ _ _ _ h1, C03_concurrent_unshuffled_eq T hT _ _ _ _ h2,
    C03_async_unshuffled_eq T' _ _ _ _ h3]; exact ⟨rfl, rfl⟩

/-- Write order inside one filler session: the examples of a split appear in its listed shards
(closing order) exactly in the order in which they were written, for every interleaving of splits,
metadata values and rejected writes. -/
theorem C03_session_order (eps : Nat) (heps : 1 ≤ eps) (ops : List Fill.Op) (sp : Nat) :
    ∃ cl, Fill.listed eps ops sp = some cl ∧
      (cl.flatMap (·.exs)).map (·.1) = (Fill.accepted ops sp).map (·.1) := by
  obtain ⟨cl, h1, h2⟩ := Fill.C11_every_write_listed_once eps heps ops sp
  exact ⟨cl, h1, by rw [h2]⟩

end Sedpack.Pipe
