import SedpackProps.C02System
import SedpackProps.C03
/-!
# C03 / C15 for the Rust reader: unshuffled, it yields exactly what the Python readers yield

Unshuffled, the output of `RustRun` (C02System.lean) is the shards' examples in list order: the list the synchronous, concurrent
and asyncio interfaces yield (`C03_interfaces_agree`).
-/
namespace Sedpack.Pipe

/-- `as_numpy_iterator_rust(shuffle=0)`: the shards' examples in list order, for every thread count and timing -/
theorem C03_rust_unshuffled_eq (paths : List Nat) (ex : Nat → List Nat) (out : List Nat) (h : RustRun 0 paths ex out) :
    out = paths.flatMap ex := by
  simpa using C03_sync_unshuffled_eq paths ex id out h.sync

/-- Non-vacuity: two workers, three one-example shards; one interleaving of the workers. -/
example : RustRun 0 [0, 1, 2] (fun p => [10 * p]) [0, 10, 20] := by
  let c : PMap.Cfg := { m := 2, nq := 1, nr := 1 }
  have g : PMap.Good c := ⟨fun _ => Nat.le_refl 1, .inl (Nat.lt_succ_self 1)⟩
  -- the kernel runs the trace once; what the pass returned then follows from `C15_full_pass_is_the_input`
  have hacc : (PMap.accepts c (PMap.init c) [.wRecv 1, .wRecv 0, .wSend 0, .cNext, .wSend 1, .cNext, .wRecv 0, .wSend 0,
      .cNext, .wRecv 1, .wRecv 0, .cNext]).map (fun s => (s.ended, s.dropped)) = some (true, false) := by decide +kernel
  obtain ⟨s, hs, he⟩ := Option.map_eq_some_iff.1 hacc
  have hr := PMap.accepts_reach c _ _ s .init hs
  have he' : s.ended = true := congrArg Prod.fst he
  have hd : s.dropped = false := congrArg Prod.snd he
  refine ⟨_, rfl, _, .inr ⟨c, s, g, hr, Nat.zero_lt_two, he', hd, rfl, rfl⟩, ?_⟩
  rw [PMap.C15_full_pass_is_the_input c g s hr Nat.zero_lt_two he' hd]
  rfl

end Sedpack.Pipe
