import SedpackProps.SrcGen
/-!
# C03 — the unshuffled pipelines have the shape M-PIPE gives them, in the current source

`C03_sync/_concurrent/_async_unshuffled_eq` are proved for: path list → (cycle) → per-shard decoding in list order, the concurrent
interface taking *batches* of paths (`islice`), mapping them in order and chaining the results.  Re-checked against the source
text extracted on this run.
-/
namespace Sedpack.Src

/-- the reading side keeps nothing on `self` between passes (five of the conjuncts of `C02_src_readers_keep_no_state`) -/
theorem C03_src_readers_keep_no_state :
    (hasSelfStore shardPathsDataset || hasSelfStore asNumpyCommon || hasSelfStore asNumpyIterator
      || hasSelfStore asNumpyIteratorConcurrent || hasSelfStore asNumpyIteratorAsync) = false := by decide +kernel
/-- the concurrent interface: the unshuffled branch (after `else`) creates the executor, takes a batch with `islice`, maps it in
order, chains the per-shard lists and takes the next batch; nothing in it compares anything (`hasCmp`) -/
theorem C03_src_concurrent_batches :
    (match last asNumpyIteratorConcurrent "else" with
     | some i =>
        let br := asNumpyIteratorConcurrent.drop (i + 1)
        allBefore br "ThreadPoolExecutor" "islice" && occurrences br "islice" == 2 && occurrences br "map" == 1
          && allBefore br "map" "from_iterable" && allBefore br "from_iterable" "yieldfrom" && !hasCmp br
     | none => false) = true := by decide +kernel
/-- the synchronous interface decodes shard by shard (`map`) and chains (`from_iterable`) before any example-level shuffling -/
theorem C03_src_sync_chain :
    (allBefore asNumpyIterator "as_numpy_common" "map" && noneBefore asNumpyIterator "shuffle_buffer" "from_iterable") = true := by decide +kernel

end Sedpack.Src
