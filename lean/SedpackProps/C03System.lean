import SedpackProps.C10
import SedpackProps.C03
import SedpackProofs.TreeEnum
/-!
# C03, end to end (M-FILL → M-TREE → M-PIPE): a filler session seen from the reader

M-FILL says which shards a root filler session closes for a split (in closing order, with the examples each holds);
M-TREE says what the reader's depth-first walk enumerates after `write_config`.  Composed: the examples a reader gets
from the split's own shard list after the session are the examples it got before followed by exactly the accepted
writes of the session, in write order — for every sequence of writes (rejected ones included, any interleaving of
splits and metadata values, any shard size) and every earlier history.  `session_all` / `history_all` are the transfer
lemmas that C10System / C11System instantiate.
-/
namespace Sedpack.System
open Sedpack

/-- the shard entry the filler records for a closed shard (`file` is its fresh name) -/
def toShard (file : Nat) (c : Fill.Closed) : Tree.Shard :=
  { file := file, n := c.n, exs := c.exs.map (·.1), md := c.md }

/-- the shard entries a root filler session closes for split `s` (none when it closed no shard there) -/
def shardsFor (eps : Nat) (ops : List Fill.Op) (name : Nat → Nat → Nat) (s : Nat) : Option (List Tree.Shard) :=
  match Fill.listed eps ops s with
  | some (c :: cs) => some ((List.range' 0 (c :: cs).length).zipWith (fun i cl => toShard (name s i) cl) (c :: cs))
  | _ => none

/-- the session a root filler hands to `write_config`: for every split it closed shards in, those shards in closing order -/
def fillerSession (eps : Nat) (ops : List Fill.Op) (name : Nat → Nat → Nat) (splits : List Nat) : Tree.Session :=
  splits.filterMap (fun s => (shardsFor eps ops name s).map (fun sh => ([s], sh)))

def examples (l : List Tree.Shard) : List Nat := l.flatMap (·.exs)

theorem examples_append (a b : List Tree.Shard) : examples (a ++ b) = examples a ++ examples b := List.flatMap_append

variable {eps : Nat} {ops : List Fill.Op} {name : Nat → Nat → Nat} {splits : List Nat}

theorem examples_shardsFor {s cl} (h : Fill.listed eps ops s = some cl) :
    examples ((shardsFor eps ops name s).getD []) = (cl.flatMap (·.exs)).map (·.1) := by
  have : (shardsFor eps ops name s).getD [] = (List.range' 0 cl.length).zipWith (fun i c => toShard (name s i) c) cl := by
    unfold shardsFor
    cases cl <;> simp [h]
  rw [this, examples, List.flatMap_def, List.map_flatMap, List.flatMap_def, List.map_zipWith]
  congr 1
  exact List.ext_getElem (by simp) fun i h1 h2 => by simp [toShard]

theorem mem_shardsFor {a shs} {sh : Tree.Shard} (h : shardsFor eps ops name a = some shs) (hsh : sh ∈ shs) :
    ∃ i cl c, Fill.listed eps ops a = some cl ∧ c ∈ cl ∧ sh = toShard (name a i) c := by
  unfold shardsFor at h
  split at h
  · rename_i c cs hl
    cases h
    obtain ⟨j, hj, rfl⟩ := List.mem_iff_getElem.1 hsh
    exact ⟨_, _, _, hl, List.getElem_mem _, List.getElem_zipWith⟩
  · cases h

theorem mem_fillerSession {w : Tree.Dir × List Tree.Shard} (hw : w ∈ fillerSession eps ops name splits) :
    ∃ a ∈ splits, w.1 = [a] ∧ shardsFor eps ops name a = some w.2 := by
  obtain ⟨a, ha, h⟩ := List.mem_filterMap.1 hw
  obtain ⟨sh, hsh, rfl⟩ := Option.map_eq_some_iff.1 h
  exact ⟨a, ha, rfl, hsh⟩

theorem fillerSession_dirs {B : Nat} (hB : 1 ≤ B) : ∀ w ∈ fillerSession eps ops name splits, w.1 ≠ [] ∧ w.1.length ≤ B := by
  intro w hw
  obtain ⟨a, _, h, _⟩ := mem_fillerSession hw
  rw [h]; exact ⟨nofun, hB⟩

structure Run where
  ops : List Fill.Op
  name : Nat → Nat → Nat
  splits : List Nat

section
variable {P : Tree.Shard → Prop} {H : Tree.SList → Nat} {B fuel : Nat} (hfuel : B < fuel + 1) (hB : 1 ≤ B) {s : Nat}
include hfuel hB

/-- transfer lemma: a session adds only records of shards M-FILL lists for it (`session_adds_exactly`) -/
theorem session_all {ds : Tree.DS} (hg : Tree.Good H B ds) (hl : Tree.Linked ds.fs)
    (hnew : ∀ a i cl c, Fill.listed eps ops a = some cl → c ∈ cl → P (toShard (name a i) c))
    (hold : ∀ sh ∈ Tree.shardsOf fuel ds.fs [s], P sh) :
    ∀ sh ∈ Tree.shardsOf fuel (Tree.session H fuel ds (fillerSession eps ops name splits)).fs [s], P sh := by
  intro sh hsh
  rcases (Tree.session_adds_exactly H B fuel hfuel hB ds _ (fillerSession_dirs hB) hg hl s sh).mp hsh
    with h | ⟨w, hw, _, hshw⟩
  · exact hold sh h
  · obtain ⟨a, _, _, hsf⟩ := mem_fillerSession hw
    obtain ⟨i, cl, c, hcl, hc, rfl⟩ := mem_shardsFor hsf hshw
    exact hnew a i cl c hcl hc

theorem history_all
    (hnew : ∀ (r : Run) a i cl c, Fill.listed eps r.ops a = some cl → c ∈ cl → P (toShard (r.name a i) c)) :
    ∀ (hist : List Run) (ds : Tree.DS), Tree.Good H B ds → Tree.Linked ds.fs →
      (∀ sh ∈ Tree.shardsOf fuel ds.fs [s], P sh) →
      ∀ sh ∈ Tree.shardsOf fuel (hist.foldl (fun d r => Tree.session H fuel d (fillerSession eps r.ops r.name r.splits)) ds).fs [s],
        P sh := by
  intro hist
  induction hist with
  | nil => exact fun _ _ _ h => h
  | cons r rest ih =>
    intro ds hg hl hold
    exact ih _ (Tree.session_post H B fuel hfuel hB ds _ (fillerSession_dirs hB) hg).good
      (Tree.session_linked H B fuel hfuel hB ds _ (fillerSession_dirs hB) hg hl) (session_all hfuel hB hg hl (hnew r) hold)

end

theorem newAt_filterMap {g : Nat → Option (List Tree.Shard)} {s : Nat} {splits : List Nat} (hnd : splits.Nodup) :
    Tree.newAt (splits.filterMap (fun a => (g a).map (fun sh => ([a], sh)))) [s] = if s ∈ splits then (g s).getD [] else [] := by
  induction splits with
  | nil => rfl
  | cons a as ih =>
    have ⟨ha, hnd⟩ := List.nodup_cons.1 hnd
    have ih := ih hnd
    unfold Tree.newAt at ih ⊢
    by_cases has : a = s
    · subst has; cases h : g a <;> simp [h, ha, ih]
    · cases h : g a <;> simp [h, has, Ne.symm has, ih]

/-- **End to end: write order and exactly-once for a root filler session**: the examples held by the shard entries of split `s`'s
own list are those held before followed by exactly the accepted writes to `s`, in write order. -/
theorem C03_filler_session_end_to_end (H : Tree.SList → Nat) (B fuel eps : Nat) (hfuel : B < fuel + 1) (hB : 1 ≤ B) (heps : 1 ≤ eps)
    (ds : Tree.DS) (hg : Tree.Good H B ds) (ops : List Fill.Op) (name : Nat → Nat → Nat) (splits : List Nat) (hnd : splits.Nodup)
    (s : Nat) (hs : s ∈ splits) :
    examples (Tree.filesAt (Tree.session H fuel ds (fillerSession eps ops name splits)).fs [s]) =
      examples (Tree.filesAt ds.fs [s]) ++ (Fill.accepted ops s).map (·.1) := by
  have hfiles := (Tree.session_post H B fuel hfuel hB ds (fillerSession eps ops name splits) (fillerSession_dirs hB) hg).files
  obtain ⟨cl, hl, _, hacc, _⟩ := Fill.listed_spec eps heps ops s
  -- the merge leaves the files of `[s]` as `applyWrites` left them; that appended `newAt`, for a filler session
  -- `shardsFor … s` (`newAt_filterMap`), whose examples are the accepted writes (`listed_spec`)
  rw [hfiles [s], Tree.applyWrites_files, fillerSession, newAt_filterMap hnd, if_pos hs, examples_append,
    examples_shardsFor hl, hacc]

/-- … and when the split has no child lists (only root filler sessions so far), this *is* what every reader enumerates. -/
theorem C03_enumeration_of_flat_split (fuel : Nat) (fs : Tree.FS) (s : Nat) (l : Tree.SList) (h : fs [s] = some l) (hk : l.kids = []) :
    examples (Tree.shardsOf (fuel + 1) fs [s]) = examples (Tree.filesAt fs [s]) := by
  simp [Tree.shardsOf, h, hk, Tree.filesAt]

def shardEx (L : List Tree.Shard) (i : Nat) : List Nat := (L[i]?.map (·.exs)).getD []

theorem flatMap_shardEx (L : List Tree.Shard) : (List.range L.length).flatMap (shardEx L) = examples L := by
  have h : shardEx L = fun i => (L.map (·.exs)).getD i [] := funext fun i => by simp [shardEx, List.getD]
  have := map_range_length_getD (L.map (·.exs)) []
  rw [List.length_map] at this
  rw [h, List.flatMap_def, this, examples, List.flatMap_def]

/-- **From `write_example` to the reader, all three pure-Python unshuffled interfaces, every read parallelism.**
For a split whose list has no child lists, after a root filler session every unshuffled pass yields the examples it
yielded before followed by the accepted writes of the session in write order. -/
theorem C03_reader_sees_write_order (H : Tree.SList → Nat) (B fuel eps T T' : Nat) (hfuel : B < fuel + 1) (hB : 1 ≤ B) (heps : 1 ≤ eps) (hT : 0 < T)
    (ds : Tree.DS) (hg : Tree.Good H B ds) (ops : List Fill.Op) (name : Nat → Nat → Nat) (splits : List Nat) (hnd : splits.Nodup)
    (s : Nat) (hs : s ∈ splits) (o1 o2 o3 : List Nat)
    (L : List Tree.Shard) (hL : L = Tree.filesAt (Tree.session H fuel ds (fillerSession eps ops name splits)).fs [s])
    (h1 : Pipe.SyncRun 0 (List.range L.length) (shardEx L) id o1)
    (h2 : Pipe.ConcurrentRun 0 T (List.range L.length) (shardEx L) id o2)
    (h3 : Pipe.AsyncRun 0 T' (List.range L.length) (shardEx L) id o3) :
    o1 = examples (Tree.filesAt ds.fs [s]) ++ (Fill.accepted ops s).map (·.1) ∧ o2 = o1 ∧ o3 = o1 := by
  have e1 := Pipe.C03_sync_unshuffled_eq _ _ _ _ h1
  have ⟨h12, h23⟩ := Pipe.C03_interfaces_agree T T' hT _ _ _ o1 o2 o3 h1 h2 h3
  rw [List.map_id, flatMap_shardEx, hL,
    C03_filler_session_end_to_end H B fuel eps hfuel hB heps ds hg ops name splits hnd s hs] at e1
  exact ⟨e1, h12.symm, (h12.trans h23).symm⟩

end Sedpack.System
