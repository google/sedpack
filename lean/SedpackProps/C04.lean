import SedpackProps.C08
/-!
# C04 — Shard-list metadata always accounts exactly for what is stored

Over M-TREE (`SedpackModel/Tree.lean`).  `Exact H fs info` is the inductive statement of "the
metadata tree below `info` is exact": the list document exists and has the recorded digest, its
total is the sum over its shard entries and child records, its shard count is own files plus the
children's recorded counts, child records lie one directory level deeper in pairwise different
directories, and every child record is exact in turn.  Quantifiers: every store satisfying the
invariants, every tree depth (`B` is any bound on the deepest directory), every set of updates,
every history of sessions (root / fresh / reused / nested sub-directory fillers and multi-writer
calls are all `Session`s: lists of (directory, closed shards)).
Per-shard counts (`n = |stored examples|`) are C10's `C10_shard_size_bounds` over M-FILL.
-/
namespace Sedpack.Tree

/-- From `merge_spec`: the recursive merge returns an exact info for its directory, leaves the store well formed and
changes nothing outside that directory's sub-tree.  (That it never changes any list's shard files, keeps every reachable
directory reachable and makes every update reachable is `C08_merge_keeps_files` / `C08_merge_keeps_reachable`.) -/
theorem C04_merge_exact (H : SList → Nat) (B fuel : Nat) (fs : FS) (d : Dir) (us : List Kid)
    (hfuel : B < fuel + d.length) (hpre : Pre B fs d us) :
    Exact H (merge H fuel fs d us).1 (merge H fuel fs d us).2 ∧ (merge H fuel fs d us).2.dir = d ∧
    WF (merge H fuel fs d us).1 ∧
    (∀ x, ¬ d <+: x → (merge H fuel fs d us).1 x = fs x) := by
  have h := merge_spec H B fuel fs d us hfuel hpre
  exact ⟨h.exact, h.dir, h.wf, h.frame⟩

/-- **A completed session keeps every split exact** — appended shards plus the per-split merges of
`write_config`; splits the session did not write to are untouched. -/
theorem C04_session_exact (H : SList → Nat) (B fuel : Nat) (hfuel : B < fuel + 1) (hB : 1 ≤ B) (ds : DS) (se : Session)
    (hse : ∀ w ∈ se, w.1 ≠ [] ∧ w.1.length ≤ B) (hg : Good H B ds) : Good H B (session H fuel ds se) :=
  (session_post H B fuel hfuel hB ds se hse hg).good

/-- **Every history.** Starting from the empty dataset, after any sequence of completed sessions
every split recorded in the description is exact. -/
theorem C04_history_exact (H : SList → Nat) (B fuel : Nat) (hfuel : B < fuel + 1) (hB : 1 ≤ B)
    (hist : List Session) (hh : ∀ se ∈ hist, ∀ w ∈ se, w.1 ≠ [] ∧ w.1.length ≤ B) :
    Good H B (hist.foldl (session H fuel) { fs := fun _ => none, splits := fun _ => none }) :=
  (C08_history_invariant H B fuel hfuel hB hist hh).1

/-- the split a session wrote to is present in the description afterwards -/
theorem C04_touched_split_recorded (H : SList → Nat) (B fuel : Nat) (hfuel : B < fuel + 1) (hB : 1 ≤ B) (ds : DS)
    (se : Session) (hse : ∀ w ∈ se, w.1 ≠ [] ∧ w.1.length ≤ B) (hg : Good H B ds) :
    ∀ w ∈ se, ∃ k, (session H fuel ds se).splits (w.1.headD 0) = some k :=
  (session_post H B fuel hfuel hB ds se hse hg).recorded

theorem sumF_flatMap_kids (f : Dir → List Shard) :
    ∀ ks : List Kid, (∀ c ∈ ks, sumF (f c.dir) = c.n ∧ (f c.dir).length = c.shards) →
      sumF (ks.flatMap (fun c => f c.dir)) = sumN ks ∧ (ks.flatMap (fun c => f c.dir)).length = sumS ks := by
  intro ks
  induction ks with
  | nil => intro _; exact ⟨rfl, rfl⟩
  | cons c cs ih =>
    intro h
    obtain ⟨h1, h2⟩ := h c List.mem_cons_self
    obtain ⟨h3, h4⟩ := ih (fun c' hc' => h c' (List.mem_cons_of_mem _ hc'))
    rw [List.flatMap_cons, sumF_append, List.length_append, h1, h2, h3, h4]
    exact ⟨rfl, rfl⟩

/-- **Recorded totals are the true totals.** For an exact info, the recorded example count is the
sum of the recorded counts of all shards the enumeration visits, and the recorded shard count is
their number. -/
theorem C04_counts (H : SList → Nat) (B fuel : Nat) (fs : FS) (k : Kid) (hex : Exact H fs k) (hd : DepthOK fs B)
    (hle : k.dir.length ≤ B) (hf : B < fuel + k.dir.length) :
    sumF (shardsOf fuel fs k.dir) = k.n ∧ (shardsOf fuel fs k.dir).length = k.shards := by
  refine hex.rec_fuel hd (fun {fuel k l} hget _ hn hs hwf ih => ?_) hle hf
  obtain ⟨h1, h2⟩ := sumF_flatMap_kids (shardsOf fuel fs) l.kids ih
  rw [shardsOf, hget, sumF_append, List.length_append, h1, h2, hn, hs, hwf.sum]
  exact ⟨rfl, rfl⟩

/-- every shard a session into one directory `d` closed is listed afterwards, in `d`, after the shards that were
already there (nothing is listed twice by the merge, nothing dropped) -/
theorem C04_written_listed (H : SList → Nat) (B fuel : Nat) (hfuel : B < fuel + 1) (hB : 1 ≤ B) (ds : DS)
    (d : Dir) (new : List Shard) (hd : d ≠ [] ∧ d.length ≤ B) (hg : Good H B ds) :
    filesAt (session H fuel ds [(d, new)]).fs d = filesAt ds.fs d ++ new := by
  rw [(session_post H B fuel hfuel hB ds [(d, new)] (List.forall_mem_singleton.mpr hd) hg).files d]
  exact appendShards_files _ _ _

def FreshHistory (H : SList → Nat) (fuel : Nat) : DS → List Session → Prop
  | _, [] => True
  | ds, se :: rest => FreshSession ds.fs se ∧ FreshHistory H fuel (session H fuel ds se) rest

/-- **No shard file is listed twice** — after every history of completed sessions whose shard files carry fresh names
(uuid4), what the depth-first walk enumerates for a split contains no file name twice.  (That none is left unlisted is
`C04_every_written_shard_is_enumerated`, per session; that nothing else appears is `C08_session_adds_exactly`.) -/
theorem C04_no_shard_listed_twice (H : SList → Nat) (B fuel : Nat) (hfuel : B < fuel + 1) (hB : 1 ≤ B) :
    ∀ (hist : List Session) (ds : DS), Good H B ds → NamesOK ds.fs → (∀ se ∈ hist, ∀ w ∈ se, w.1 ≠ [] ∧ w.1.length ≤ B) →
      FreshHistory H fuel ds hist →
      ∀ s, ((shardsOf fuel (hist.foldl (session H fuel) ds).fs [s]).map (·.file)).Nodup := by
  intro hist
  induction hist with
  | nil =>
    intro ds hg hn _ _ s
    exact shardsOf_names_nodup hg.wf hn fuel [s]
  | cons se rest ih =>
    intro ds hg hn hh hfresh s
    simp only [List.foldl_cons]
    have hse := hh se List.mem_cons_self
    exact ih _ (session_post H B fuel hfuel hB ds se hse hg).good (session_namesOK H B fuel hfuel hB ds se hse hg hn hfresh.1)
      (fun se' h' => hh se' (List.mem_cons_of_mem _ h')) hfresh.2 s

/-- the empty dataset satisfies the hypothesis `NamesOK` of `C04_no_shard_listed_twice` (`Good` is `good_empty`) -/
theorem C04_empty_namesOK : NamesOK (fun _ => none : FS) :=
  ⟨fun _ _ _ _ hs => (nomatch hs), fun _ => List.Pairwise.nil⟩

theorem C04_every_written_shard_is_enumerated (H : SList → Nat) (B fuel : Nat) (hfuel : B < fuel + 1) (hB : 1 ≤ B) (ds : DS)
    (se : Session) (hse : ∀ w ∈ se, w.1 ≠ [] ∧ w.1.length ≤ B) (hg : Good H B ds) (hl : Linked ds.fs)
    (w : Dir × List Shard) (hw : w ∈ se) (sh : Shard) (hsh : sh ∈ w.2) :
    sh ∈ shardsOf fuel (session H fuel ds se).fs [w.1.headD 0] :=
  (session_adds_exactly H B fuel hfuel hB ds se hse hg hl (w.1.headD 0) sh).mpr (Or.inr ⟨w, hw, rfl, hsh⟩)

/-- `_shard_info_iterator`: own shard files in list order, then the children depth-first in the
order of the child records -/
theorem C03_iter_order (fuel : Nat) (fs : FS) (d : Dir) (l : SList) (h : fs d = some l) :
    shardsOf (fuel+1) fs d = l.files ++ l.kids.flatMap (fun c => shardsOf fuel fs c.dir) := by
  rw [shardsOf, h]

/-- the child records written by one merge are in first-occurrence order of
(updates in argument order, then the previously known children) -/
theorem C03_merge_keeps_update_order (H : SList → Nat) (B fuel : Nat) (fs : FS) (d : Dir) (us : List Kid)
    (hfuel : B < fuel + d.length) (hpre : Pre B fs d us) :
    ∃ l', (merge H fuel fs d us).1 d = some l' ∧ l'.kids.map (·.dir) =
      (groupBy d.length (us.filter (fun u => u.dir.length > d.length) ++ ((fs d).getD {}).kids)).map (fun g => d ++ [g.1]) :=
  (merge_spec H B fuel fs d us hfuel hpre).kidsOrder

def H0 (l : SList) : Nat := 1000 + l.n + 7 * l.files.length

/-- two sessions into the *same* sub-directory `train/a` (the scenario on which the pinned code's
`assert len(current_level) <= 1` fired): the model — like the repaired code — treats the known child
and the update as the same file; totals 5 then 7. -/
example :
    let s1 : Session := [([0, 1], [⟨10, 3, [1, 2, 3], 0, 0⟩]), ([0, 2], [⟨11, 2, [4, 5], 0, 0⟩])]
    let s2 : Session := [([0, 1], [⟨12, 2, [6, 7], 0, 0⟩])]
    let ds1 := session H0 4 { fs := fun _ => none, splits := fun _ => none } s1
    let ds2 := session H0 4 ds1 s2
    ((ds1.splits 0).map (fun k => (k.n, k.shards)), (ds2.splits 0).map (fun k => (k.n, k.shards)),
      (ds2.fs [0]).map (fun l => l.kids.map (fun c => (c.dir, c.n, c.shards))))
      = (some (5, 2), some (7, 3), some [([0, 1], 5, 2), ([0, 2], 2, 1)]) := by
  decide +kernel

end Sedpack.Tree
