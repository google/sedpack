import SedpackProps.SrcGen
/-!
# C04 — every touched split goes through the merge, in the current source

`C04_session_exact` / `C04_history_exact` model `write_config` as: group the updates by split, *merge every group* into the split's
list tree (re-reading the lists on disk), replace the split's entry, then write the description.  Re-checked against the source
text extracted on this run.
-/
namespace Sedpack.Src

/-- the only branch of `write_config` is the refusal of an unknown split name; everything after it is straight-line code per split:
merge, replace the entry; then the description is dumped and published -/
theorem C04_src_every_update_is_merged :
    (occurrences datasetWriteConfig "if" == 1 && allBefore datasetWriteConfig "endif" "merge_shard_infos"
      && occurrences datasetWriteConfig "merge_shard_infos" == 1 && allBefore datasetWriteConfig "merge_shard_infos" "set:splits"
      && allBefore datasetWriteConfig "set:splits" "model_dump_json" && allBefore datasetWriteConfig "model_dump_json" "safe_update_file") = true := by
  decide +kernel
/-- the recursive merge re-reads the list it extends from disk: `load_or_create` occurs (implied by `C06_src_load_before_write`;
that the children are written first is `C06_src_children_first`) -/
theorem C04_src_merge_reloads : (first mergeShardInfos "load_or_create").isSome = true := by decide +kernel

end Sedpack.Src
