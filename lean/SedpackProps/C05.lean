import SedpackProofs.TreeCheck
import SedpackProps.C04
/-!
# C05 — Integrity check accepts every committed dataset and detects every modification

`check` (SedpackModel/Tree.lean) follows the code's two passes.  *Completeness*: on an exact tree
(which C04 establishes after every history) whose shard entries carry the digests of the files
they name (recorded when a shard is closed, C16), the check passes.  *Detection*: hash functions
are not injective on unbounded inputs, so the premise is about the specific pairs involved — every
altered file's new content has a digest different from the recorded one (any single configured
algorithm suffices); a removed file raises.  Under that premise altering **any** reachable list
file or shard file — at any byte, by truncation, extension, deletion, replacement by a sibling or
by an older version — makes the check fail, for every tree shape.
-/
namespace Sedpack.Tree

/-- the check passes on every exact tree with correctly recorded shard digests -/
theorem C05_check_complete (H : SList → Nat) (Hf : Nat → Nat) (B fuel : Nat) (fs : FS) (files : Files) (infos : List Kid)
    (hd : DepthOK fs B) (hinf : ∀ k ∈ infos, Exact H fs k ∧ ShardsOK Hf fs files k ∧ k.dir.length ≤ B ∧ B < fuel + k.dir.length) :
    check H Hf fuel fs files infos = true := by
  simp only [check, Bool.and_eq_true, List.all_eq_true]
  exact ⟨fun k hk => checkLists_complete H B fuel fs k (hinf k hk).1 hd (hinf k hk).2.2.1 (hinf k hk).2.2.2,
         fun k hk => checkShards_complete H Hf B fuel fs files k (hinf k hk).1 (hinf k hk).2.1 hd (hinf k hk).2.2.1 (hinf k hk).2.2.2⟩

/-- the check passes after every history of completed sessions from the empty dataset, given correctly recorded shard
digests (`C04_history_exact` gives `Good`) -/
theorem C05_check_after_history (H : SList → Nat) (Hf : Nat → Nat) (B fuel : Nat) (hfuel : B < fuel + 1) (hB : 1 ≤ B)
    (hist : List Session) (hh : ∀ se ∈ hist, ∀ w ∈ se, w.1 ≠ [] ∧ w.1.length ≤ B) (files : Files) (ss : List Nat) :
    let ds := hist.foldl (session H fuel) { fs := fun _ => none, splits := fun _ => none }
    (∀ s ∈ ss, ∀ k, ds.splits s = some k → ShardsOK Hf ds.fs files k) →
    check H Hf fuel ds.fs files (ss.filterMap ds.splits) = true := by
  intro ds hok
  have hg : Good H B ds := C04_history_exact H B fuel hfuel hB hist hh
  apply C05_check_complete H Hf B fuel ds.fs files _ hg.depth
  intro k hk
  simp only [List.mem_filterMap] at hk
  obtain ⟨s, hs, hsk⟩ := hk
  obtain ⟨hdir, hex⟩ := hg.exact s k hsk
  exact ⟨hex, hok s hs k hsk, hdir ▸ hB, hdir ▸ hfuel⟩

/-- **One merge re-establishes exactness of the whole split, whatever was rewritten below it beforehand.**  The store only has to
be `WF` and `DepthOK`: lists below `[s]` may have been extended by fillers whose infos were held back
(`auto_update_dataset=False`), by crashed sessions, by other writers — the merge moves all already-known children into the
recursion, so the digests and totals of *every* list reachable from the split are recomputed.  Hence pass 1 of `check()` succeeds
after every commit that touches the split; pass 2 needs `ShardsOK` in addition (`C05_check_complete`). -/
theorem C05_merge_restores_exactness (H : SList → Nat) (B fuel : Nat) (fs : FS) (s : Nat) (ups : List Kid) (hB : 1 ≤ B) (hfuel : B < fuel + 1)
    (hwf : WF fs) (hd : DepthOK fs B) (hups : ∀ u ∈ ups, [s] <+: u.dir ∧ u.dir.length ≤ B) :
    (merge H fuel fs [s] ups).2.dir = [s] ∧ Exact H (merge H fuel fs [s] ups).1 (merge H fuel fs [s] ups).2 := by
  have hp := merge_spec H B fuel fs [s] ups hfuel ⟨hwf, hd, hups, hB⟩
  exact ⟨hp.dir, hp.exact⟩

/-- **Any altered / removed / replaced shard-list file is detected** -/
theorem C05_detects_list_file (H : SList → Nat) (Hf : Nat → Nat) (fuel : Nat) (fs fs' : FS) (files : Files) (infos : List Kid)
    (k : Kid) (hk : k ∈ infos) (hex : Exact H fs k) (htame : ListsTame H fs fs' k.dir)
    (hmod : ∃ x, Reaches fs k.dir x ∧ fs' x ≠ fs x) :
    check H Hf fuel fs' files infos = false := by
  simp only [check, Bool.and_eq_false_iff]
  left
  rw [List.all_eq_false]
  exact ⟨k, hk, by simp [checkLists_detects H fuel fs fs' k hex htame hmod]⟩

/-- **Any altered / removed / replaced shard file is detected** (list files as committed).  `hex` and `hok` say what state the
files were altered from; the proof needs neither: whatever pass 2 accepts is there with the recorded digest (`checkShards_sound`). -/
theorem C05_detects_shard_file (H : SList → Nat) (Hf : Nat → Nat) (fuel : Nat) (fs : FS) (files files' : Files) (infos : List Kid)
    (k : Kid) (hk : k ∈ infos) (hex : Exact H fs k) (hok : ShardsOK Hf fs files k)
    (htame : ∀ x l, Reaches fs k.dir x → fs x = some l → ∀ s ∈ l.files, ShardTame Hf files files' x s)
    (hmod : ∃ x l s, Reaches fs k.dir x ∧ fs x = some l ∧ s ∈ l.files ∧ files' x s.file ≠ files x s.file) :
    check H Hf fuel fs files' infos = false := by
  obtain ⟨x, l, s, hx, hl, hs, hne⟩ := hmod
  simp only [check, Bool.and_eq_false_iff]
  right
  rw [List.all_eq_false]
  refine ⟨k, hk, fun h => ?_⟩
  obtain ⟨l', hl', hok'⟩ := checkShards_sound Hf fuel fs files' k.dir h x hx
  cases hl.symm.trans hl'
  obtain ⟨c, hc, hcs⟩ := hok' s hs
  exact (htame x l hx hl s hs).elim hne fun hdiff => hdiff c hc hcs

/-- the description file itself: the comparison made when expected checksums are supplied, written out in the statement (no
model definition occurs): it fails when the real checksums differ from them, and is skipped when none are supplied -/
theorem C05_root_checksum (real expected : List Nat) (h : real ≠ expected) :
    (if expected ≠ [] ∧ real ≠ expected then false else true) = false ∨ expected = [] := by
  by_cases he : expected = []
  · exact Or.inr he
  · left; simp [he, h]

/-- a digest that depends on the children's digests -/
def Hx (l : SList) : Nat := 1000 + l.n + 7 * l.files.length + (l.kids.map (·.hash)).sum
def fsx : FS := (session Hx 4 { fs := fun _ => none, splits := fun _ => none }
  [([0, 1], [⟨10, 3, [], 0, 77⟩, ⟨11, 2, [], 0, 78⟩])]).fs
def kx : Kid := ((session Hx 4 { fs := fun _ => none, splits := fun _ => none }
  [([0, 1], [⟨10, 3, [], 0, 77⟩, ⟨11, 2, [], 0, 78⟩])]).splits 0).getD ⟨[], 0, 0, 0⟩
def filesx : Files := fun d f => if d = [0, 1] then (if f = 10 then some 77 else if f = 11 then some 78 else none) else none
-- Non-vacuity: an exact two-level tree passes; flipping the child list's total is detected; swapping a shard file for its
-- sibling's content is detected.
example : check Hx id 4 fsx filesx [kx] = true := by decide +kernel
example : check Hx id 4 (fsx.set [0, 1] { n := 4, files := [⟨10, 3, [], 0, 77⟩, ⟨11, 2, [], 0, 78⟩] }) filesx [kx] = false := by decide +kernel
example : check Hx id 4 fsx (fun d f => if f = 10 then filesx d 11 else filesx d f) [kx] = false := by decide +kernel

end Sedpack.Tree
