import SedpackProps.SrcGen
/-!
# C05 — the shape of `Dataset.check` in the current source

M-TREE's `checkLists` verifies every list document against the digest recorded by its parent *before* parsing it and
recurses into the children named by the parsed document; `check` then verifies every shard file of every split, after the
optional comparison of the description's own checksums.  Re-checked here against the source text extracted on this run.
-/
namespace Sedpack.Src

/-- `_check_shard_list_info`: the file is hashed, compared (`!=`) and rejected before it is parsed -/
theorem C05_src_verify_before_parse :
    (allBefore checkListInfo "hash_checksums" "cmp:NotEq" && allBefore checkListInfo "cmp:NotEq" "raise" &&
     allBefore checkListInfo "raise" "model_validate_json") = true := by decide +kernel
/-- … and the children named by the parsed document are checked recursively -/
theorem C05_src_recurses_into_children : allBefore checkListInfo "model_validate_json" "_check_shard_list_info" = true := by decide +kernel
/-- `check`: description checksums first, then every list, then every shard file -/
theorem C05_src_check_passes :
    (allBefore datasetCheck "current_metadata_checksums" "_check_shard_list_info" &&
     allBefore datasetCheck "_check_shard_list_info" "shard_info_iterator" &&
     allBefore datasetCheck "shard_info_iterator" "hash_checksums") = true := by decide +kernel
/-- a mismatch raises: `check` has two `!=` comparisons and two `raise`s, and its last event is a `raise` (counts and the last
event only) -/
theorem C05_src_mismatch_raises :
    (datasetCheck.filter (· == "cmp:NotEq")).length = 2 ∧ (datasetCheck.filter (· == "raise")).length = 2 ∧
    datasetCheck.getLast? = some "raise" := by decide +kernel

end Sedpack.Src
