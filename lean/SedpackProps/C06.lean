import SedpackProofs.Crash
/-!
# C06 — A writer crash never corrupts or loses committed data

M-CRASH (`SedpackModel/Crash.lean`): one label per file-system effect of a writing session; a crash
state is the state after any prefix of an accepted effect sequence (`C06_every_prefix_is_a_state`),
which is also what a concurrent reader sees at that instant.  The theorems hold in **every**
reachable state, for every history, every session and every crash point.  Assumptions: `rename`
is atomic, a process crash loses no completed write (the OS stays up), shard file names are fresh.
That the real code's effect order satisfies the guards of `install` / `installInfo` is checked on
every run by replaying the observed effect trace through `accepts`.
-/
namespace Sedpack.Crash

/-- the discipline invariant holds at every crash point -/
theorem C06_invariant (s0 s : St) (h0 : Inv s0) (h : Reach s0 s) : Inv s := inv_reach h0 h

/-- **Every shard reachable from the description is a completely written, hashed file that nobody
is writing to** — at every crash point. -/
theorem C06_reachable_complete (s0 s : St) (h0 : Inv s0) (h : Reach s0 s) (f : Nat) (hf : Reachable s f) :
    f ∈ s.closed ∧ f ∉ s.opened := by
  have hi := inv_reach h0 h
  obtain ⟨r, _, hr⟩ := hf
  have hc := reachFrom_closed hi hr
  exact ⟨hc, hi.closedNotOpen f hc⟩

/-- **Committed data is kept**: whatever was reachable before the session (or at any earlier
instant) is still reachable at every later crash point. -/
theorem C06_committed_kept (s0 s : St) (h : Reach s0 s) (f : Nat) (hf : Reachable s0 f) : Reachable s f :=
  h.keeps (fun ih hs => (step_le hs).reachable ih) hf

/-- **Children before parents, lists before the description**: every list document named by an
installed document or by the description is itself installed, at every crash point
(so every metadata file a reader can reach exists as a complete document). -/
theorem C06_children_first (s0 s : St) (h0 : Inv s0) (h : Reach s0 s) :
    (∀ d doc, s.docs d = some doc → ∀ c ∈ doc.kids, (s.docs c).isSome = true) ∧
    (∀ r ∈ s.roots, (s.docs r).isSome = true) :=
  have hi := inv_reach h0 h
  ⟨hi.kidsInstalled, hi.rootsInstalled⟩

/-- a closed shard file stays closed at every later crash point (that it is not open for writing either is `Inv.closedNotOpen`,
through `C06_invariant`) -/
theorem C06_closed_stays (s0 s : St) (h : Reach s0 s) (f : Nat) (hf : f ∈ s0.closed) : f ∈ s.closed :=
  h.keeps (P := fun s => f ∈ s.closed) (fun ih hs => (step_le hs).closed f ih) hf

/-- every crash point of an accepted session is a reachable state -/
theorem C06_every_prefix_is_a_state (s0 s' : St) (tr pre : List Lbl) (hp : pre <+: tr) (ha : accepts s0 tr = some s') :
    ∃ sp, accepts s0 pre = some sp ∧ Reach s0 sp := by
  obtain ⟨sp, hsp⟩ := replays.of_prefix hp ha
  exact ⟨sp, hsp, accepts_reach s0 .init hsp⟩

/-- only the atomic `install` / `installInfo` effects change what metadata a reader can see:
writing to a shard file or to a temp file leaves the installed documents and the description as they are -/
theorem C06_partial_writes_invisible (s s' : St) (l : Lbl) (hs : step s l = some s')
    (hl : (∃ f, l = .shardBegin f ∨ l = .shardAppend f ∨ l = .shardClose f) ∨ ∃ d, l = .tmpWrite d) :
    s'.docs = s.docs ∧ s'.roots = s.roots := by
  rcases hl with ⟨f, rfl | rfl | rfl⟩ | ⟨d, rfl⟩ <;> cases step_sound hs <;> exact ⟨rfl, rfl⟩

def empty : St := { closed := [], opened := [], docs := fun _ => none, roots := [], tmps := 0 }
-- Non-vacuity: `Inv` holds of the empty disk, and a first session of one shard in `train` is accepted to its end.
example : Inv empty := ⟨nofun, nofun, nofun, nofun, .nil⟩
example : (accepts empty [.shardBegin 1, .shardAppend 1, .shardClose 1, .tmpWrite [0], .install [0] ⟨[1], []⟩,
    .tmpWrite [], .installInfo [[0]]]).map (fun s => (s.closed, s.roots)) = some ([1], [[0]]) := by decide +kernel
/-- listing a shard before it is closed is refused by the model -/
example : accepts empty [.shardBegin 1, .install [0] ⟨[1], []⟩] = none := by decide +kernel

end Sedpack.Crash
