import SedpackProps.SrcGen
/-!
# C06 — the effect order of the writer-side source, as extracted on this run

M-CRASH's guards (a shard is listed only after it is closed and hashed; children before parents; lists before the
description; metadata through write-then-rename) are checked dynamically on observed effect traces (`c06.py`) and derived for
the code-shaped model in `C06Tree.lean`.  Here the same order is re-checked *statically* against the current source text
(`SrcGen.lean`, regenerated by `harness/extract_order.py` on every run), function by function.
-/
namespace Sedpack.Src

/-- `safe_update_file`: the complete document is written to the temp file before it is renamed over the target -/
theorem C06_src_write_then_rename : allBefore safeUpdateFile "write" "replace" = true := by decide +kernel
/-- … and the file is hashed (`hash_checksums`, for the `FileInfo` it returns) only after the rename -/
theorem C06_src_rename_then_checksum : allBefore safeUpdateFile "replace" "hash_checksums" = true := by decide +kernel
/-- `Shard.close`: the writer is closed before the file is hashed -/
theorem C06_src_close_then_hash : allBefore shardClose "close" "_compute_file_hash_checksums" = true := by decide +kernel
theorem C06_src_hash_then_record : allBefore shardClose "_compute_file_hash_checksums" "set:hash_checksums" = true := by decide +kernel
/-- `close_shard`: a shard enters its list only after `Shard.close()` returned -/
theorem C06_src_closed_before_listed : allBefore closeShard "close" "append" = true := by decide +kernel
/-- `DatasetFiller.__exit__`: open shards are closed, then the lists are written, then the dataset is updated -/
theorem C06_src_exit_order :
    (allBefore fillerExit "close_shard" "_update_infos" && allBefore fillerExit "_update_infos" "write_config") = true := by decide +kernel
/-- `merge_shard_infos`: the recursive merges (child lists) come before this list's own `write_config` -/
theorem C06_src_children_first : allBefore mergeShardInfos "merge_shard_infos" "write_config" = true := by decide +kernel
/-- the old document is loaded (`load_or_create`) before this list's `write_config` -/
theorem C06_src_load_before_write : allBefore mergeShardInfos "load_or_create" "write_config" = true := by decide +kernel
/-- `DatasetWriting.write_config`: all lists are merged before the description is replaced -/
theorem C06_src_lists_before_description : allBefore datasetWriteConfig "merge_shard_infos" "safe_update_file" = true := by decide +kernel
/-- `write_multiprocessing`: the pool is run (`imap`) and the infos are collected (`get_updated_infos`) before the dataset is
updated (`write_config`) -/
theorem C06_src_writers_before_update :
    (allBefore writeMultiprocessing "imap" "write_config" && allBefore writeMultiprocessing "get_updated_infos" "write_config") = true := by
  decide +kernel
/-- `ShardsList.write_config` calls `safe_update_file` (its table shows no `open` / `write` of its own; that is not in the statement) -/
theorem C06_src_lists_are_replaced_atomically : (first listWriteConfig "safe_update_file").isSome = true := by decide +kernel
/-- `ShardWriterFlatBuffer.close`: the buffer is finished before the file is opened, the file opened before it is written -/
theorem C06_src_fb_file_written_at_close : (allBefore fbClose "Finish" "open" && allBefore fbClose "open" "write") = true := by decide +kernel

end Sedpack.Src
