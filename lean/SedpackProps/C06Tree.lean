import SedpackProofs.TreeCrashRefine
import SedpackProps.C08
/-!
# C06 ↔ M-TREE: the merge of the code-shaped model obeys M-CRASH's install discipline

M-CRASH accepts an `install d doc` only if `doc` extends the document it replaces (same shard entries or more, no child
dropped), names only children whose own documents are already installed, and those lie exactly one level deeper.  The
harness checks that the *observed* effect order of the real code satisfies these guards; here the same facts are derived,
for every store, every depth and every set of updates, from the code-shaped model of `merge_shard_infos`: the document it
writes at a directory is computed from the infos *returned by* the merges of its children, so those were written before.
-/
namespace Sedpack.Tree

/-- `merge_installOK` under its property name: the document `merge` leaves at `d` is `InstallOK`, for every call under `Pre`
(hence for the recursive ones) -/
theorem C06_merge_respects_install_discipline (H : SList → Nat) (B fuel : Nat) (fs : FS) (d : Dir) (us : List Kid)
    (hfuel : B < fuel + d.length) (hpre : Pre B fs d us) : InstallOK fs (merge H fuel fs d us).1 d :=
  merge_installOK H B fuel fs d us hfuel hpre

/-- the same for every split of a whole `write_config`: after a completed session each split root document exists and
every child record anywhere in the tree points to an existing document (nothing dangling is ever reachable) -/
theorem C06_session_no_dangling_child (H : SList → Nat) (B fuel : Nat) (hfuel : B < fuel + 1) (hB : 1 ≤ B) (ds : DS) (se : Session)
    (hse : ∀ w ∈ se, w.1 ≠ [] ∧ w.1.length ≤ B) (hg : Good H B ds) (s : Nat) (k : Kid)
    (hk : (session H fuel ds se).splits s = some k) (x : Dir) (hx : Reaches (session H fuel ds se).fs [s] x) :
    (session H fuel ds se).fs x ≠ none := by
  obtain ⟨hkd, hex⟩ := (session_post H B fuel hfuel hB ds se hse hg).good.exact s k hk
  exact hex.reaches_ne_none (hkd ▸ hx)

/-! ## Crash points of the code-shaped model

`sessionE` (SedpackModel/TreeCrash.lean) is `session` emitting every list document it installs, in program order.  A crash
state of the metadata is the store after a prefix of that sequence; the description still names the old split table (or the
new one, after the last install).  The theorems quantify over every dataset, every session shape, every depth and every
prefix length. -/

/-- the effect-emitting session computes the same dataset as `session`, and its installs reproduce its store -/
theorem C06_effects_refine_session (H : SList → Nat) (B fuel : Nat) (hfuel : B < fuel + 1) (hB : 1 ≤ B) (ds : DS) (se : Session)
    (hse : ∀ w ∈ se, w.1 ≠ [] ∧ w.1.length ≤ B) (hi : SInv B ds.fs) :
    (sessionE H fuel ds se).1 = session H fuel ds se ∧
    (session H fuel ds se).fs = applyInstalls ds.fs (sessionE H fuel ds se).2 :=
  have h := sessionE_spec H B fuel hfuel hB ds se hse hi
  ⟨h.1, h.2.1⟩

/-- the emitted sequence satisfies `StepOK` at every step: each document names only children installed before it and extends the
one it replaces (every guard of M-CRASH's `install` but closedness of the listed shards: `step_refines`) -/
theorem C06_session_installs_valid (H : SList → Nat) (B fuel : Nat) (hfuel : B < fuel + 1) (hB : 1 ≤ B) (ds : DS) (se : Session)
    (hse : ∀ w ∈ se, w.1 ≠ [] ∧ w.1.length ≤ B) (hi : SInv B ds.fs) : Valid B ds.fs (sessionE H fuel ds se).2 :=
  (sessionE_spec H B fuel hfuel hB ds se hse hi).2.2

/-- **Every crash point of a session.**  After any number `k` of the session's installs: every list document is well formed
and names only documents that exist (`SInv`); every shard enumerated before the session is still enumerated; and every
enumerated shard was either committed before or is a shard the session closed — never anything else. -/
theorem C06_session_crash_points (H : SList → Nat) (B fuel : Nat) (hfuel : B < fuel + 1) (hB : 1 ≤ B) (ds : DS) (se : Session)
    (hse : ∀ w ∈ se, w.1 ≠ [] ∧ w.1.length ≤ B) (hg : Good H B ds) (hi : SInv B ds.fs) (hl : Linked ds.fs) (k s : Nat) :
    SInv B (applyInstalls ds.fs ((sessionE H fuel ds se).2.take k)) ∧
    (∀ sh, sh ∈ shardsOf fuel ds.fs [s] → sh ∈ shardsOf fuel (applyInstalls ds.fs ((sessionE H fuel ds se).2.take k)) [s]) ∧
    (∀ sh, sh ∈ shardsOf fuel (applyInstalls ds.fs ((sessionE H fuel ds se).2.take k)) [s] →
      sh ∈ shardsOf fuel ds.fs [s] ∨ ∃ w ∈ se, w.1.headD 0 = s ∧ sh ∈ w.2) := by
  obtain ⟨_, hst, hv⟩ := sessionE_spec H B fuel hfuel hB ds se hse hi
  exact crash_points hfuel hB hse hg hi hl hv hst k s

/-- **Every crash point of a multi-writer call** (`write_multiprocessing`: the fillers `fl` one after the other, each rewriting
its own lists, then the merges in the parent): the same three facts, for every number of fillers and every prefix. -/
theorem C06_multiwriter_crash_points (H : SList → Nat) (B fuel : Nat) (hfuel : B < fuel + 1) (hB : 1 ≤ B) (ds : DS) (fl : List Session)
    (hse : ∀ w ∈ fl.flatten, w.1 ≠ [] ∧ w.1.length ≤ B) (hg : Good H B ds) (hi : SInv B ds.fs) (hl : Linked ds.fs) (k s : Nat) :
    SInv B (applyInstalls ds.fs ((multiSessionE H fuel ds fl).2.take k)) ∧
    (∀ sh, sh ∈ shardsOf fuel ds.fs [s] → sh ∈ shardsOf fuel (applyInstalls ds.fs ((multiSessionE H fuel ds fl).2.take k)) [s]) ∧
    (∀ sh, sh ∈ shardsOf fuel (applyInstalls ds.fs ((multiSessionE H fuel ds fl).2.take k)) [s] →
      sh ∈ shardsOf fuel ds.fs [s] ∨ ∃ f ∈ fl, ∃ w ∈ f, w.1.headD 0 = s ∧ sh ∈ w.2) := by
  obtain ⟨_, hst, hv⟩ := multiSessionE_spec H B fuel hfuel hB ds fl hse hi
  obtain ⟨h1, h2, h3⟩ := crash_points hfuel hB hse hg hi hl hv hst k s
  refine ⟨h1, h2, fun sh h => (h3 sh h).imp_right ?_⟩
  rintro ⟨w, hw, h5, h6⟩
  obtain ⟨f, hf, hwf⟩ := List.mem_flatten.mp hw
  exact ⟨f, hf, w, hwf, h5, h6⟩

/-- **Worker processes, any schedule.**  With real worker processes the effects of the writers of a multi-writer call reach the
disk in some interleaving `ws` (closed shards, each followed at once by a rewrite of its list; rewrites of lists as they stand),
followed by the parent's merges.  The same three facts, for *every* such schedule and every prefix of the resulting installs.
(`RewOK`: a rewrite targets a list that exists — a filler only rewrites lists it has written.) -/
theorem C06_concurrent_writers_crash_points (H : SList → Nat) (B fuel : Nat) (hfuel : B < fuel + 1) (hB : 1 ≤ B) (ds : DS)
    (ws : List WEff) (hse : ∀ w ∈ closesOf ws, w.1 ≠ [] ∧ w.1.length ≤ B) (hrw : RewOK ds.fs ws)
    (hg : Good H B ds) (hi : SInv B ds.fs) (hl : Linked ds.fs) (k s : Nat) :
    SInv B (applyInstalls ds.fs ((concurrentCallE H fuel ds ws).2.take k)) ∧
    (∀ sh, sh ∈ shardsOf fuel ds.fs [s] → sh ∈ shardsOf fuel (applyInstalls ds.fs ((concurrentCallE H fuel ds ws).2.take k)) [s]) ∧
    (∀ sh, sh ∈ shardsOf fuel (applyInstalls ds.fs ((concurrentCallE H fuel ds ws).2.take k)) [s] →
      sh ∈ shardsOf fuel ds.fs [s] ∨ ∃ d, d.headD 0 = s ∧ WEff.close d sh ∈ ws) := by
  obtain ⟨hv, hrest⟩ := concurrentCallE_spec H B fuel hfuel hB ds ws hse hi
  obtain ⟨h1, h2, h3⟩ := crash_points hfuel hB hse hg hi hl hv (hrest hrw).2 k s
  refine ⟨h1, h2, fun sh h => (h3 sh h).imp_right ?_⟩
  rintro ⟨w, hw, h5, h6⟩
  obtain ⟨sh', hw2, hmem⟩ := mem_closesOf hw
  cases List.mem_singleton.mp (hw2 ▸ h6)
  exact ⟨w.1, h5, hmem⟩

/-- **The code-shaped model refines M-CRASH.**  Read as M-CRASH `install` labels, the documents a writing call installs are
accepted by M-CRASH from the abstraction of the dataset it continues — every guard of `Crash.step` (listed shards closed,
children installed first and exactly one level deeper, documents only grow) holds at every step — provided the shard files the
final lists name are closed (`C`: the filler lists a shard only after `Shard.close()` returned, `C06_src_closed_before_listed`).
Hence every theorem of `C06.lean` about reachable M-CRASH states applies to every crash point of the code-shaped model. -/
theorem C06_code_shaped_trace_accepted_by_M_CRASH (H : SList → Nat) (B fuel : Nat) (hfuel : B < fuel + 1) (hB : 1 ≤ B) (ds : DS)
    (fl : List Session) (hse : ∀ w ∈ fl.flatten, w.1 ≠ [] ∧ w.1.length ≤ B) (hi : SInv B ds.fs) (C : List Nat) (R : List Dir)
    (hC : ∀ x, ∀ sh ∈ filesAt (session H fuel ds fl.flatten).fs x, sh.file ∈ C) :
    Crash.accepts (absSt ds.fs C R) ((multiSessionE H fuel ds fl).2.map toLbl) =
      some (absSt (session H fuel ds fl.flatten).fs C R) := by
  obtain ⟨_, hst, hv⟩ := multiSessionE_spec H B fuel hfuel hB ds fl hse hi
  rw [hst] at hC ⊢
  exact valid_accepted B C R _ _ hv hC

def rootsOf (ds : DS) (ss : List Nat) : List Dir := ss.filterMap (fun s => (ds.splits s).map (·.dir))

theorem mem_rootsOf {ds : DS} {ss : List Nat} {r : Dir} :
    r ∈ rootsOf ds ss ↔ ∃ s ∈ ss, ∃ k, ds.splits s = some k ∧ k.dir = r := by
  simp only [rootsOf, List.mem_filterMap, Option.map_eq_some_iff]

/-- **… and the description last**: after the call's list installs, replacing `dataset_info.json` by the new split table is
accepted by M-CRASH as well: every root it names is installed, and no split of the old description is dropped. -/
theorem C06_description_install_accepted (H : SList → Nat) (B fuel : Nat) (hfuel : B < fuel + 1) (hB : 1 ≤ B) (ds : DS)
    (se : Session) (hse : ∀ w ∈ se, w.1 ≠ [] ∧ w.1.length ≤ B) (hg : Good H B ds) (C : List Nat) (ss : List Nat) :
    Crash.step (absSt (session H fuel ds se).fs C (rootsOf ds ss)) (.installInfo (rootsOf (session H fuel ds se) ss)) =
      some (absSt (session H fuel ds se).fs C (rootsOf (session H fuel ds se) ss)) := by
  have hgood := (session_post H B fuel hfuel hB ds se hse hg).good
  refine Crash.Step.complete (.installInfo (hroots := fun r hr => ?_) (hold := fun r hr => ?_))
  · -- a split the new description names is exact, so its root document exists
    obtain ⟨s, _, k, hk, rfl⟩ := mem_rootsOf.mp hr
    exact Option.isSome_map.trans (Option.isSome_iff_ne_none.mpr ((hgood.exact s k hk).2.reaches_ne_none (.refl _)))
  · -- a split the old description names is still in the table, under the same directory `[s]`
    obtain ⟨s, hs, k, hk, rfl⟩ := mem_rootsOf.mp hr
    obtain ⟨k', hk'⟩ := Option.ne_none_iff_exists'.mp (mergeSplits_splits_mono H fuel _ _ ⟨applyWrites ds.fs se, ds.splits⟩ s
      (hk ▸ nofun))
    exact mem_rootsOf.mpr ⟨s, hs, k', hk', (hgood.exact s k' hk').1.trans (hg.exact s k hk).1.symm⟩

/-- every completed session keeps `SInv`, hence so does every history -/
theorem C06_history_sinv (H : SList → Nat) (B fuel : Nat) (hfuel : B < fuel + 1) (hB : 1 ≤ B) (hist : List Session) (ds : DS)
    (hi : SInv B ds.fs) (hh : ∀ se ∈ hist, ∀ w ∈ se, w.1 ≠ [] ∧ w.1.length ≤ B) : SInv B (hist.foldl (session H fuel) ds).fs :=
  foldl_inv (P := fun ds => SInv B ds.fs) hist ds hi fun ds se hse hi => by
    obtain ⟨_, hst, hv⟩ := sessionE_spec H B fuel hfuel hB ds se (hh se hse) hi
    exact hst ▸ valid_sinv B _ _ hv hi

theorem C06_empty_sinv (B : Nat) : SInv B (fun _ => none) :=
  ⟨nofun, nofun, nofun⟩

/-- **Every history, every crash point.**  Start from the empty dataset, complete any history of sessions, then let a further
session `se` die after any number `k` of its metadata installs: the store is well formed and free of dangling records, every
shard the completed history made enumerable is still enumerated (in its list's order), and nothing is enumerated that was not
committed or closed by `se`. -/
theorem C06_history_crash_points (H : SList → Nat) (B fuel : Nat) (hfuel : B < fuel + 1) (hB : 1 ≤ B)
    (hist : List Session) (hh : ∀ se ∈ hist, ∀ w ∈ se, w.1 ≠ [] ∧ w.1.length ≤ B)
    (se : Session) (hse : ∀ w ∈ se, w.1 ≠ [] ∧ w.1.length ≤ B) (k s : Nat) :
    let ds := hist.foldl (session H fuel) { fs := fun _ => none, splits := fun _ => none }
    let c := applyInstalls ds.fs ((sessionE H fuel ds se).2.take k)
    SInv B c ∧
    (∀ sh, sh ∈ shardsOf fuel ds.fs [s] → sh ∈ shardsOf fuel c [s]) ∧
    (∀ sh, sh ∈ shardsOf fuel c [s] → sh ∈ shardsOf fuel ds.fs [s] ∨ ∃ w ∈ se, w.1.headD 0 = s ∧ sh ∈ w.2) ∧
    (∀ x, filesAt ds.fs x <+: filesAt c x) := by
  intro ds c
  obtain ⟨hg, hl⟩ := C08_history_invariant H B fuel hfuel hB hist hh
  have hi : SInv B ds.fs := C06_history_sinv H B fuel hfuel hB hist _ (C06_empty_sinv B) hh
  obtain ⟨_, _, hv⟩ := sessionE_spec H B fuel hfuel hB ds se hse hi
  obtain ⟨h1, h2, h3⟩ := C06_session_crash_points H B fuel hfuel hB ds se hse hg hi hl k s
  exact ⟨h1, h2, h3, (valid_mono B _ _ (valid_take B _ _ k hv).1).files⟩

/-- **The next completed session heals.**  Take *any* well-formed store — in particular the store after any prefix of any
session's installs (`C06_session_crash_points` gives `SInv`), where parents may record stale totals and digests of children that
were already rewritten — and any split table.  After a completed session, every split the session wrote into is recorded by an
*exact* entry again, so the integrity check of those splits passes (`C05_check_complete`). -/
theorem C06_next_session_heals (H : SList → Nat) (B fuel : Nat) (hfuel : B < fuel + 1) (hB : 1 ≤ B) (c : FS) (splits : Nat → Option Kid)
    (hwf : WF c) (hd : DepthOK c B) (se : Session) (hse : ∀ w ∈ se, w.1 ≠ [] ∧ w.1.length ≤ B) :
    ∀ w ∈ se, ∃ k, (session H fuel { fs := c, splits := splits } se).splits (w.1.headD 0) = some k ∧ k.dir = [w.1.headD 0] ∧
      Exact H (session H fuel { fs := c, splits := splits } se).fs k := by
  intro w hw
  have hwf' := applyWrites_wf se hwf
  have hd' := applyWrites_depth se hd
  -- merging a split makes its entry exact whatever the store held before (`Merges.exact`)
  obtain ⟨ks, hm, hin, _⟩ := mergeSplits_merges H B fuel hfuel hB (se.map (·.1)) (List.forall_mem_map.mpr hse) _
    ⟨applyWrites c se, splits⟩ (nodup_dedup _) hwf' hd'
  obtain ⟨k, hk, h1, h2⟩ := hin _ ((mem_dedup _ _).mpr (List.mem_map_of_mem (List.mem_map_of_mem hw)))
  exact ⟨k, h1, h2, hm.exact k hk⟩

/-- … in particular after a crash at any point of any session continuing any history -/
theorem C06_crash_then_session_heals (H : SList → Nat) (B fuel : Nat) (hfuel : B < fuel + 1) (hB : 1 ≤ B)
    (hist : List Session) (hh : ∀ se ∈ hist, ∀ w ∈ se, w.1 ≠ [] ∧ w.1.length ≤ B)
    (crashed : Session) (hc : ∀ w ∈ crashed, w.1 ≠ [] ∧ w.1.length ≤ B) (k : Nat)
    (next : Session) (hn : ∀ w ∈ next, w.1 ≠ [] ∧ w.1.length ≤ B) :
    let ds := hist.foldl (session H fuel) { fs := fun _ => none, splits := fun _ => none }
    let c := applyInstalls ds.fs ((sessionE H fuel ds crashed).2.take k)
    ∀ w ∈ next, ∃ kd, (session H fuel { fs := c, splits := ds.splits } next).splits (w.1.headD 0) = some kd ∧
      Exact H (session H fuel { fs := c, splits := ds.splits } next).fs kd := by
  intro ds c w hw
  have hsi := (C06_history_crash_points H B fuel hfuel hB hist hh crashed hc k 0).1
  obtain ⟨kd, h1, _, h3⟩ := C06_next_session_heals H B fuel hfuel hB c ds.splits hsi.wf hsi.depth next hn w hw
  exact ⟨kd, h1, h3⟩

/-- Non-vacuity and a test of the emitted order: one session writing into `train/a` (0/5) and `train` (0) of an empty
dataset installs the two leaf lists (after the shards were closed), the same two on exit, then `train/a`, then `train`. -/
example : ((sessionE (fun _ => 7) 4 { fs := fun _ => none, splits := fun _ => none }
    [([0, 5], [{ file := 1, n := 2 }]), ([0], [{ file := 2, n := 1 }])]).2.map (·.1)) = [[0, 5], [0], [0, 5], [0], [0, 5], [0]] := by decide +kernel

end Sedpack.Tree
