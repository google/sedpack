import SedpackProps.C13
import SedpackProofs.Pipe
import SedpackModel.ParMap
/-!
# C07 — Unreadable shards surface as errors: never a hang, never silent truncation

*No silent truncation* is the contrapositive of exactly-once delivery: a pass that ends normally
has delivered every element of its source, so it cannot have skipped a shard whose loader failed.
*No hang* is deadlock-freedom plus termination.  For the Python paths the loader's exception
propagates through the generators (they only catch end-of-iteration); for the shuffled concurrent
path this is the lazy pool (`forward = true`); for Rust it is `fstep` with `propagate = true`.
`C07_rust_original_truncates` (and C13's `C13_original_deadlocks`) are the kernel-checked witnesses
that the pinned semantics violate the statement (defects D9, D2 — both repaired in /repo).
-/
namespace Sedpack.Pool

/-- **Lazy pool, failing loader**: under every interleaving the pass can neither end normally
(silent truncation) nor get stuck, and every schedule is finite; every terminal state (all worker
threads returned) has the consumer re-raised (`fin 1`) or abandoned by its caller (`fin 2`). -/
theorem C07_pool_fault_raises (c : Cfg) (g : Good c) (n i : Nat) (hn : c.n = some n) (hi : i < n) (hf : c.fails i = true)
    (s : St) (h : Reach c s) :
    ¬ normalEnd s ∧ (¬ terminal s → ∃ l, (step c s l).isSome = true) ∧
    (∀ tr s', accepts c s tr = some s' → tr.length ≤ mu c n s) ∧
    (terminal s → s.ph = .fin 1 ∨ s.ph = .fin 2) := by
  have hne := C13_fault_no_silent_end c g n i hn hi hf s h
  refine ⟨hne, C13_deadlock_free c g s h, fun tr s' ha => C13_terminates c g n hn s s' h tr ha, ?_⟩
  intro ⟨⟨why, hw⟩, _⟩
  have hle := (after_loop g.fw g.T1 g.TP h (by rw [hw]; rfl)).1
  rw [hw] at hle
  match why, hw, hle with
  | 0, hw, _ => exact absurd (.inr hw) hne
  | 1, hw, _ => exact .inl hw
  | 2, hw, _ => exact .inr hw

end Sedpack.Pool

namespace Sedpack.Pipe
open Sedpack.Iter

/-- **Sequential / async / batched paths**: a complete pass has pulled every element of its source
and yielded a permutation of it — so a pass over a source one of whose shards cannot be loaded
(that shard's examples never arrive) cannot be complete: the pass does not end normally. -/
theorem C07_complete_pass_delivers_everything (b : Nat) (xs out : List Nat) (h : SBRun b xs out) (x : Nat) (hx : x ∈ xs) : x ∈ out :=
  (SBRun_perm h).symm.subset hx

theorem C07_round_robin_delivers_everything (b : Nat) (ls : List (List Nat)) (out : List Nat) (h : RRRun b ls out)
    (l : List Nat) (hl : l ∈ ls) (x : Nat) (hx : x ∈ l) : x ∈ out :=
  (RRRun_perm h).symm.subset (List.mem_flatten.mpr ⟨l, hl, hx⟩)

end Sedpack.Pipe

namespace Sedpack.PMap

/-- D9 — the pinned `ParallelMap::next`: 1 worker, 2 items, the function panics on the first:
the iteration *ends normally* having returned nothing (silent truncation). -/
theorem C07_rust_original_truncates :
    let f : FCfg := { c := { m := 1, nq := 2, nr := 0 }, fails := fun a _ => a = 0, propagate := false }
    (faccepts f (finit f) [.wRecv 0, .wSend 0, .cNext]).map (fun t => (t.s.ended, t.s.out, t.failed)) = some (true, [], false) := by
  decide +kernel

/-- the repaired one reports the dead worker instead -/
theorem C07_rust_repaired_raises :
    let f : FCfg := { c := { m := 1, nq := 2, nr := 0 }, fails := fun a _ => a = 0, propagate := true }
    (faccepts f (finit f) [.wRecv 0, .wSend 0, .cNext]).map (fun t => (t.s.ended, t.s.out, t.failed)) = some (false, [], true) := by
  decide +kernel

/-- **Repaired Rust path, in general**: `next()` never reports the end of the iteration for a
worker that died without having been told to finish — whenever the consumer finds such a worker,
the only possible outcome of the call is the failure.  The hypotheses are the guard of that branch of `fstep`, so this
reads the definition off; that the repaired `ParallelMap::next` behaves like `fstep` is what the replay of recorded
fault traces on `fstep` (`pmapfault`) checks. -/
theorem C07_rust_dead_worker_is_reported (f : FCfg) (hp : f.propagate = true) (t : FSt) (hm : f.c.m ≠ 0)
    (hlive : t.failed = false ∧ t.s.ended = false ∧ t.s.dropped = false)
    (hnores : ¬ t.s.posOut t.s.now < t.s.posW t.s.now) (hdead : t.s.exited t.s.now = true) (hnofin : t.s.fin t.s.now = false) :
    fstep f t .cNext = some { t with failed := true } := by
  obtain ⟨h1, h2, h3⟩ := hlive
  simp [fstep, h1, h2, h3, hm, hnores, hdead, hnofin, hp]

/-- without failing items the fault-aware step is the plain step, from a state in which every worker that has left was told to
(`hok`; for the workers `w < c.m` of a reachable state this is `WInv.ex`) -/
theorem C07_fstep_eq_step (f : FCfg) (hnf : ∀ a b, f.fails a b = false) (t : FSt) (l : Lbl)
    (hok : ∀ w, t.s.exited w = true → t.s.fin w = true ∨ t.s.dropped = true) (hf : t.failed = false) :
    fstep f t l = (step f.c t.s l).map (fun s' => { t with s := s' }) := by
  cases l with
  | wRecv w => rfl
  | cDrop => rfl
  | wSend w => simp [fstep, hnf]
  | cNext =>
    simp only [fstep, hf, Bool.false_eq_true, if_false]
    rw [if_neg]
    rintro ⟨_, hnd, _, hex, hfin, _⟩
    rcases hok _ hex with h | h
    · rw [hfin] at h; cases h
    · exact hnd (Or.inr h)

end Sedpack.PMap
