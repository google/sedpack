import SedpackProps.SrcGen
/-!
# C07 — no iteration path swallows an exception, in the current source

M-POOL forwards a failure of the mapped function to the consumer (`C07_pool_fault_raises`); the other Python pipelines are plain
generator compositions in which an exception of a shard reader propagates to whoever iterates.  Re-checked against the source text
extracted on this run (the lazy pool's only consumer-side handler turns an impossible `StopIteration` into an error).
-/
namespace Sedpack.Src

/-- the shard-list walk, the selection, the path stream and the five interfaces contain no `try` at all -/
theorem C07_src_iteration_has_no_handlers :
    (shardInfoIterator.contains "try" || shardInfoWalk.contains "try" || shardPathsDataset.contains "try" || asNumpyCommon.contains "try"
      || asNumpyIterator.contains "try" || asNumpyIteratorConcurrent.contains "try" || asNumpyIteratorAsync.contains "try"
      || asNumpyIteratorRust.contains "try" || asTfdataset.contains "try") = false := by decide +kernel
/-- `imap_unordered`: one handler, and it raises; a forwarded failure is re-raised after the reset -/
theorem C07_src_consumer_reraises :
    (occurrences imapUnordered "except" == 1
      && (match first imapUnordered "except" with | some i => imapUnordered[i + 1]? == some "raise" | none => false)
      && noneBefore imapUnordered "raise" "finish_and_reset") = true := by decide +kernel
/-- `Collector.run`: what the mapped function raises is wrapped (`RaisedException`) and put on the results queue -/
theorem C07_src_worker_forwards :
    (allBefore collectorRun "func" "RaisedException"
      && (match last collectorRun "RaisedException", last collectorRun "put" with | some i, some j => decide (i < j) | _, _ => false)) = true := by
  decide +kernel

end Sedpack.Src
