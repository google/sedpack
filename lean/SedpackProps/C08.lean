import SedpackProofs.TreeEnum
/-!
# C08 — Continued writing is append-only

Refinement view: what a reader can reach from a split is the set of list directories reachable
through child records, and in each the list's shard files.  A session (any kind) only *appends*
shard entries to the lists it writes into, never changes any other list's shard files, keeps
every previously reachable directory reachable and makes the directories it wrote into reachable.
-/
namespace Sedpack.Tree

/-- the merge never changes any list's shard files, in any directory -/
theorem C08_merge_keeps_files (H : SList → Nat) (B fuel : Nat) (fs : FS) (d : Dir) (us : List Kid)
    (hfuel : B < fuel + d.length) (hpre : Pre B fs d us) (x : Dir) :
    filesAt (merge H fuel fs d us).1 x = filesAt fs x :=
  (merge_spec H B fuel fs d us hfuel hpre).files x

/-- the merge keeps every reachable directory reachable and reaches every update -/
theorem C08_merge_keeps_reachable (H : SList → Nat) (B fuel : Nat) (fs : FS) (d : Dir) (us : List Kid)
    (hfuel : B < fuel + d.length) (hpre : Pre B fs d us) :
    (∀ x, Reaches fs d x → Reaches (merge H fuel fs d us).1 d x) ∧
    (∀ u ∈ us, Reaches (merge H fuel fs d us).1 d u.dir) :=
  ⟨(merge_spec H B fuel fs d us hfuel hpre).reachOld, (merge_spec H B fuel fs d us hfuel hpre).reachUps⟩

/-- **Append-only sessions.** After any session, for every split: every directory that was
reachable is still reachable, and in every directory the old shard entries are a prefix of the new
ones (same entries, same order, new ones appended). -/
theorem C08_session_append_only (H : SList → Nat) (B fuel : Nat) (hfuel : B < fuel + 1) (hB : 1 ≤ B) (ds : DS)
    (se : Session) (hse : ∀ w ∈ se, w.1 ≠ [] ∧ w.1.length ≤ B) (hg : Good H B ds) :
    (∀ s x, Reaches ds.fs [s] x → Reaches (session H fuel ds se).fs [s] x) ∧
    (∀ x, filesAt ds.fs x <+: filesAt (session H fuel ds se).fs x) := by
  have hp := session_post H B fuel hfuel hB ds se hse hg
  exact ⟨fun s x hx => hp.reach s x (applyWrites_reaches se hx), fun x => by rw [hp.files x, applyWrites_files]; exact List.prefix_append _ _⟩

/-- directories a session did not write into keep exactly their shard entries -/
theorem C08_untouched_dirs_unchanged (H : SList → Nat) (B fuel : Nat) (hfuel : B < fuel + 1) (hB : 1 ≤ B) (ds : DS)
    (se : Session) (hse : ∀ w ∈ se, w.1 ≠ [] ∧ w.1.length ≤ B) (hg : Good H B ds) (x : Dir)
    (hx : ∀ w ∈ se, w.1 ≠ x) : filesAt (session H fuel ds se).fs x = filesAt ds.fs x :=
  ((session_post H B fuel hfuel hB ds se hse hg).files x).trans (filesAt_congr (applyWrites_other se ds.fs x hx))

/-- **A session adds exactly what it wrote** (in terms of what iteration enumerates).  In a dataset all of whose list
documents are linked into their split's tree, after any completed session the shards the depth-first walk yields for a
split are exactly those it yielded before plus the shards the session closed in directories of that split. -/
theorem C08_session_adds_exactly (H : SList → Nat) (B fuel : Nat) (hfuel : B < fuel + 1) (hB : 1 ≤ B) (ds : DS) (se : Session)
    (hse : ∀ w ∈ se, w.1 ≠ [] ∧ w.1.length ≤ B) (hg : Good H B ds) (hl : Linked ds.fs) (s : Nat) (sh : Shard) :
    sh ∈ shardsOf fuel (session H fuel ds se).fs [s] ↔
      sh ∈ shardsOf fuel ds.fs [s] ∨ ∃ w ∈ se, w.1.headD 0 = s ∧ sh ∈ w.2 :=
  session_adds_exactly H B fuel hfuel hB ds se hse hg hl s sh

/-- the hypotheses of `C08_session_adds_exactly` hold after **every history of completed sessions** starting from the empty
dataset: the tree is exact and free of unlinked lists (those only arise from sessions that did not complete — C06) -/
theorem C08_history_invariant (H : SList → Nat) (B fuel : Nat) (hfuel : B < fuel + 1) (hB : 1 ≤ B)
    (hist : List Session) (hh : ∀ se ∈ hist, ∀ w ∈ se, w.1 ≠ [] ∧ w.1.length ≤ B) :
    Good H B (hist.foldl (session H fuel) { fs := fun _ => none, splits := fun _ => none }) ∧
    Linked (hist.foldl (session H fuel) { fs := fun _ => none, splits := fun _ => none }).fs :=
  history_good H B fuel hfuel hB hist hh _ (good_empty H B) fun _ hx => absurd rfl hx

/-- what the walk enumerates is exactly what the reachable lists name -/
theorem C08_enumeration_is_reachable_lists (B fuel : Nat) (fs : FS) (d : Dir) (hwf : WF fs) (hdep : DepthOK fs B)
    (hle : d.length ≤ B) (hf : B < fuel + d.length) (sh : Shard) :
    sh ∈ shardsOf fuel fs d ↔ ∃ x, Reaches fs d x ∧ sh ∈ filesAt fs x :=
  mem_shardsOf B fuel fs d hwf hdep hle hf sh

/-- `Dataset.create` on an existing dataset is refused and changes nothing -/
theorem C08_create_refused (ds : DS) : (create true ds).1 = none ∧ (create true ds).2 = ds :=
  ⟨rfl, rfl⟩

/-- Non-vacuity: two sessions (root of split 0, then a nested sub-directory of split 0 and the root of split 1);
afterwards split 0 enumerates the three shards written to it, split 1 its own one. -/
example :
    let H : SList → Nat := fun l => l.n + 17 * l.files.length
    let ds := [[([0], [⟨1, 2, [], 0, 0⟩])], [([0, 7, 8], [⟨2, 1, [], 0, 0⟩, ⟨3, 2, [], 0, 0⟩]), ([1], [⟨4, 5, [], 0, 0⟩])]].foldl
      (session H 5) { fs := fun _ => none, splits := fun _ => none }
    ((shardsOf 5 ds.fs [0]).map (·.file), (shardsOf 5 ds.fs [1]).map (·.file)) = ([1, 2, 3], [4]) := by decide +kernel

end Sedpack.Tree
