import SedpackProps.SrcGen
/-!
# C08 — the description file exists at every instant once it exists, in the current source

"Creating a dataset where one already exists is refused" is decided by `Dataset.create` from the *presence* of the description
file.  That is a safe test at every instant of another handle's commit only if a commit never takes the file away: re-checked
against the source text extracted on this run.
-/
namespace Sedpack.Src

/-- `Dataset.create`: the existence test (`is_file`) and the refusal come before anything is created or written -/
theorem C08_src_create_refuses_first :
    (allBefore datasetCreate "is_file" "raise" && allBefore datasetCreate "raise" "mkdir" && allBefore datasetCreate "raise" "write_config"
      && occurrences datasetCreate "raise" == 1) = true := by decide +kernel
/-- `DatasetWriting.write_config` touches the description file through `safe_update_file` only — once, at the very end — and
`safe_update_file` writes the temp file, then replaces: the target is never absent in between -/
theorem C08_src_description_never_absent :
    (occurrences datasetWriteConfig "safe_update_file" == 1 && !datasetWriteConfig.contains "replace" && !datasetWriteConfig.contains "rename"
      && !datasetWriteConfig.contains "unlink" && !datasetWriteConfig.contains "remove" && !datasetWriteConfig.contains "move"
      && occurrences safeUpdateFile "replace" == 1 && allBefore safeUpdateFile "write" "replace"
      && !safeUpdateFile.contains "unlink" && !safeUpdateFile.contains "rename" && !safeUpdateFile.contains "remove") = true := by decide +kernel

end Sedpack.Src
