import SedpackProofs.TreeInterleave
import SedpackProofs.TreeEnum
/-!
# C09 — Parallel writers do not interfere

Each writer of the multi-writer call gets a filler rooted in its own random sub-directory
(`split/<uuid_i>/`) and only appends shards to the lists of its own directories; the parent merges
afterwards.  An execution of the worker processes is an interleaving of the writers' effect
sequences.  Quantifiers: every number of writers, every load, every interleaving.
`multiprocessing.Pool.imap` returning results in argument order is a specified external.
-/
namespace Sedpack.Tree

/-- **Every interleaving of writers with pairwise distinct directories leaves the same store as
running them one after another.** -/
theorem C09_interleaving_eq_sequential (fs : FS) (ws : List (List Eff)) (hown : OwnDirs ws) (il : List Eff)
    (hil : IsInterleaving ws il) : applyEffs fs il = applyEffs fs ws.flatten :=
  applyEffs_eq_of_filter_eq fs il ws.flatten (filter_dir_of_interleaving ws hown il hil)

/-- writer `i` of a multi-writer call writes only below `[split, u i]` for its own name `u i`;
distinct names give pairwise disjoint directories -/
theorem C09_writer_footprint (u : Nat → Nat) (hinj : ∀ i j, u i = u j → i = j) (ws : List (List Eff))
    (hw : ∀ i, ∀ e ∈ ws.getD i [], e.writer = i ∧ ∃ s, e.dir = [s, u i]) : OwnDirs ws := by
  refine ⟨fun i e he => (hw i e he).1, ?_⟩
  intro i j hij e he f hf hd
  obtain ⟨_, s, hs⟩ := hw i e he
  obtain ⟨_, t, ht⟩ := hw j f hf
  rw [hs, ht] at hd
  exact hij (hinj i j (List.cons.inj (List.cons.inj hd).2).1)

/-- hence the whole call — any schedule of the workers, then the parent's merge — equals the
sequential run of the same writers: same store, same split table. -/
theorem C09_multiwriter_eq_sequential (H : SList → Nat) (fuel : Nat) (ds : DS) (u : Nat → Nat)
    (hinj : ∀ i j, u i = u j → i = j) (ws : List (List Eff))
    (hw : ∀ i, ∀ e ∈ ws.getD i [], e.writer = i ∧ ∃ s, e.dir = [s, u i]) (il : List Eff)
    (hil : IsInterleaving ws il) (dirs : List Dir) (ss : List Nat) :
    mergeSplits H fuel dirs ss { ds with fs := applyEffs ds.fs il } =
      mergeSplits H fuel dirs ss { ds with fs := applyEffs ds.fs ws.flatten } := by
  rw [C09_interleaving_eq_sequential ds.fs ws (C09_writer_footprint u hinj ws hw) il hil]

/-- no two workers write to the same list: the second clause of the hypothesis `OwnDirs` read the other way round (that the
workers of a multi-writer call satisfy `OwnDirs` is `C09_writer_footprint`) -/
theorem C09_no_shared_file (ws : List (List Eff)) (hown : OwnDirs ws) (i j : Nat) (e f : Eff)
    (he : e ∈ ws.getD i []) (hf : f ∈ ws.getD j []) (hd : e.dir = f.dir) : i = j :=
  Decidable.byContradiction fun hne => hown.2 i j hne e he f hf hd

/-- the session a multi-writer call amounts to: writer `i`'s shards for split `s` go to its own directory `[s, u i]` -/
def multiSession (u : Nat → Nat) (writers : List (List (Nat × List Shard))) : Session :=
  (List.range writers.length).flatMap (fun i => (writers.getD i []).map (fun p => ([p.1, u i], p.2)))

/-- **The result of the call is exact and holds exactly the writers' shards**: for every dataset reached by completed
sessions (`Good`, `Linked`), after a multi-writer call with any number of writers (writers that write nothing included, several
splits per writer) the metadata tree is exact again and every split enumerates what it enumerated before plus precisely the
shards the writers closed for it.  The call is taken as the session `multiSession u writers`, the writers one after another;
that the store does not depend on how the workers' `close_shard`s interleave is `C09_multiwriter_eq_sequential`, stated for
`applyEffs` and not connected to `applyWrites` here. -/
theorem C09_multiwriter_exact_and_adds_exactly (H : SList → Nat) (B fuel : Nat) (hfuel : B < fuel + 1) (hB : 2 ≤ B) (ds : DS)
    (u : Nat → Nat) (writers : List (List (Nat × List Shard))) (hg : Good H B ds) (hl : Linked ds.fs) :
    Good H B (session H fuel ds (multiSession u writers)) ∧ Linked (session H fuel ds (multiSession u writers)).fs ∧
    ∀ s sh, sh ∈ shardsOf fuel (session H fuel ds (multiSession u writers)).fs [s] ↔
      sh ∈ shardsOf fuel ds.fs [s] ∨ ∃ w ∈ multiSession u writers, w.1.headD 0 = s ∧ sh ∈ w.2 := by
  have hse : ∀ w ∈ multiSession u writers, w.1 ≠ [] ∧ w.1.length ≤ B := by
    intro w hw
    simp only [multiSession, List.mem_flatMap, List.mem_map] at hw
    obtain ⟨i, _, p, _, rfl⟩ := hw
    exact ⟨List.cons_ne_nil _ _, hB⟩
  have hB := Nat.le_of_succ_le hB
  exact ⟨(session_post H B fuel hfuel hB ds _ hse hg).good, session_linked H B fuel hfuel hB ds _ hse hg hl,
    session_adds_exactly H B fuel hfuel hB ds _ hse hg hl⟩

def e00 : Eff := ⟨0, [0, 100], ⟨1, 2, [], 0, 0⟩⟩
def e01 : Eff := ⟨0, [0, 100], ⟨2, 1, [], 0, 0⟩⟩
def e10 : Eff := ⟨1, [0, 101], ⟨3, 2, [], 0, 0⟩⟩
-- Non-vacuity: two writers, one interleaving.
example : IsInterleaving [[e00, e01], [e10]] [e00, e10, e01] := by
  refine ⟨by decide +kernel, fun i => ?_⟩
  match i with
  | 0 => decide +kernel
  | 1 => decide +kernel
  | (n+2) => rfl

end Sedpack.Tree
