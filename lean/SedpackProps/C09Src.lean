import SedpackProps.SrcGen
/-!
# C09 — every writer gets a fresh directory of its own, and every writer's infos are merged, in the current source

`C09_interleaving_eq_sequential` rests on the writers' directories being pairwise different and on the parent merging what *every*
filler brings back.  Re-checked against the source text extracted on this run for `write_multiprocessing`: the directory names
come from `uuid4`, not from the process id, the core count or a clock.
-/
namespace Sedpack.Src

/-- fresh random names, then the fillers, then the pool / the sequential map -/
theorem C09_src_fresh_directories :
    (occurrences writeMultiprocessing "uuid4" == 1 && allBefore writeMultiprocessing "uuid4" "DatasetFiller"
      && allBefore writeMultiprocessing "DatasetFiller" "map" && allBefore writeMultiprocessing "DatasetFiller" "Pool"
      && !writeMultiprocessing.contains "getpid" && !writeMultiprocessing.contains "cpu_count" && !writeMultiprocessing.contains "sched_getaffinity"
      && !writeMultiprocessing.contains "time" && !writeMultiprocessing.contains "time_ns") = true := by decide +kernel
/-- what every filler brings back is collected — nothing is compared or filtered between the pool's results and the merge — and
merged by one `write_config`; the consistency check comes last -/
theorem C09_src_all_infos_merged :
    (allBefore writeMultiprocessing "imap" "get_updated_infos" && allBefore writeMultiprocessing "get_updated_infos" "extend"
      && allBefore writeMultiprocessing "extend" "write_config" && allBefore writeMultiprocessing "write_config" "check"
      && occurrences writeMultiprocessing "write_config" == 1
      && (match first writeMultiprocessing "imap", first writeMultiprocessing "write_config" with
          | some i, some j => !hasCmp ((writeMultiprocessing.take j).drop i)
          | _, _ => false)) = true := by decide +kernel

end Sedpack.Src
