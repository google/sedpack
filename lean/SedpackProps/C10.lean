import SedpackProofs.Filler
/-!
# C10 — Shards respect the configured size

Quantifiers: every `examples_per_shard = eps ≥ 1`, every list of writes (splits interleaved in any way, metadata absent /
repeated / alternating, rejected writes anywhere), every split.
-/
namespace Sedpack.Fill

/-- the shards a session lists for split `sp` (after `__exit__`), with the ghost reason of closing -/
def listed (eps : Nat) (ops : List Op) (sp : Nat) : Option (List Closed) :=
  (exitSplit ((run (fixed eps) St.init ops).1 sp)).map (·.closed)

theorem listed_spec (eps : Nat) (heps : 1 ≤ eps) (ops : List Op) (sp : Nat) :
    ∃ cl, listed eps ops sp = some cl ∧ (∀ c ∈ cl, ListedOK eps c) ∧ cl.flatMap (·.exs) = accepted ops sp ∧
      cl.dropLast ⊆ ((run (fixed eps) St.init ops).1 sp).closed :=
  exit_inv ((run_inv heps ops).1 sp)

theorem listed_ok {eps ops sp cl c} (heps : 1 ≤ eps) (h : listed eps ops sp = some cl) (hc : c ∈ cl) : ListedOK eps c := by
  obtain ⟨cl', h', hok, _⟩ := listed_spec eps heps ops sp
  cases h.symm.trans h'
  exact hok c hc

theorem sum_n_eq_length {eps : Nat} {cl : List Closed} (h : ∀ c ∈ cl, ListedOK eps c) :
    (cl.map (·.n)).sum = (cl.flatMap (·.exs)).length := by
  rw [List.length_flatMap]
  exact congrArg List.sum (List.map_congr_left fun c hc => (h c hc).len)

/-- A session can always be closed, and every shard it lists holds between 1 and `eps` examples,
its recorded count being the number of examples stored in it. -/
theorem C10_shard_size_bounds (eps : Nat) (heps : 1 ≤ eps) (ops : List Op) (sp : Nat) :
    ∃ cl, listed eps ops sp = some cl ∧
      ∀ c ∈ cl, 1 ≤ c.n ∧ c.n ≤ eps ∧ c.n = c.exs.length := by
  obtain ⟨cl, hl, hok, _, _⟩ := listed_spec eps heps ops sp
  exact ⟨cl, hl, fun c hc => ⟨(hok c hc).pos, (hok c hc).le, (hok c hc).len⟩⟩

/-- No `write_example` of a session ever fails while closing a shard: the outcome of every write
is decided by the writer's validation alone. -/
theorem C10_never_close_fails (eps : Nat) (heps : 1 ≤ eps) (ops : List Op) :
    (run (fixed eps) St.init ops).2 = ops.map outcome :=
  (run_inv heps ops).2

/-- Every listed shard except the last one of the session was closed because it was full
(then it holds exactly `eps` examples) or because the metadata changed. -/
theorem C10_nonlast_full_or_mdchange (eps : Nat) (heps : 1 ≤ eps) (ops : List Op) (sp : Nat) :
    ∃ cl, listed eps ops sp = some cl ∧
      ∀ c ∈ cl.dropLast, (c.why = .full ∧ c.n = eps) ∨ c.why = .mdChange := by
  obtain ⟨cl, hl, _, _, hsub⟩ := listed_spec eps heps ops sp
  exact ⟨cl, hl, fun c hc => (((run_inv heps ops).1 sp).closed c (hsub hc)).full_or_mdChange⟩

/-- writes of split `sp` use at most one non-empty metadata value `m` -/
def ConstMd (ops : List Op) (sp m : Nat) : Prop :=
  ∀ op ∈ ops, match op with | .write s md _ _ => s = sp → md = 0 ∨ md = m

structure NoChange (m : Nat) (ss : SplitSt) : Prop where
  label : (ss.prog.getD {}).shard.md = 0 ∨ (ss.prog.getD {}).shard.md = m
  closed : ∀ c ∈ ss.closed, c.why ≠ .mdChange

theorem rollOver_noChange (eps : Nat) {m md : Nat} {ss : SplitSt} (hmd : md = 0 ∨ md = m) (h : NoChange m ss) :
    NoChange m (rollOver eps ss md) := by
  unfold rollOver
  split
  · rename_i hr
    refine ⟨Or.inl rfl, List.forall_mem_append.2 ⟨h.closed, List.forall_mem_singleton.2 fun hw => ?_⟩⟩
    -- both values are `m`, so the roll-over can only be due to the size
    obtain ⟨h1, h2, h3⟩ := hr.resolve_left (Prog.rollWhy_mdChange hw)
    exact h3 ((hmd.resolve_left h1).trans (h.label.resolve_left h2).symm)
  · exact ⟨h.label, h.closed⟩

theorem writeSplit_noChange {eps m md : Nat} {ss : SplitSt} {ex : Nat} {ok : Bool}
    (hmd : md = 0 ∨ md = m) (h : NoChange m ss) : NoChange m (writeSplit (fixed eps) ss md ex ok).1 := by
  by_cases hf : Roll eps (ss.prog.getD {}) md ∧ (ss.prog.getD {}).shard.exs = []
  · rw [fixed, write_roll_fail eps ss md ex ok hf.1 hf.2]  -- `write_roll_fail` is stated for the literal configuration
    exact ⟨h.label, h.closed⟩
  · rw [writeSplit_eq fun hr he => hf ⟨hr, he⟩]
    have hr := rollOver_noChange eps hmd h
    cases ok
    · exact hr
    · refine ⟨?_, hr.closed⟩
      show (if md = 0 then _ else md) = 0 ∨ (if md = 0 then _ else md) = m
      split
      · exact hr.label
      · exact hmd

theorem run_noChange {eps m sp : Nat} {ops : List Op} (hc : ConstMd ops sp m) :
    NoChange m ((run (fixed eps) St.init ops).1 sp) := by
  refine run_induct (fixed eps) (fun s done _ => ConstMd done sp m → NoChange m (s sp)) ?_ ops St.init [] []
    (fun _ => ⟨Or.inl rfl, fun _ h => nomatch h⟩) hc
  rintro s done _ ⟨sp0, md, ex, ok⟩ h hc
  obtain ⟨hc, hop⟩ := List.forall_mem_append.1 hc
  rw [step_fst]
  split
  · rename_i hsp
    exact writeSplit_noChange (List.forall_mem_singleton.1 hop hsp.symm) (hsp ▸ h hc)
  · exact h hc

theorem closed_full {eps : Nat} (heps : 1 ≤ eps) {ops : List Op} {sp m : Nat} (hconst : ConstMd ops sp m) :
    ∀ c ∈ ((run (fixed eps) St.init ops).1 sp).closed, c.n = eps := by
  intro c hc
  exact (((run_inv heps ops).1 sp).closed c hc).full_or_mdChange.elim (·.2)
    fun hw => absurd hw ((run_noChange hconst).closed c hc)

/-- Within one session and split, as long as the shard-level metadata does not change (all writes
of the split carry no metadata or one and the same value), every listed shard except the last
one is full. -/
theorem C10_full_except_last (eps : Nat) (heps : 1 ≤ eps) (ops : List Op) (sp m : Nat)
    (hconst : ConstMd ops sp m) :
    ∃ cl, listed eps ops sp = some cl ∧ ∀ c ∈ cl.dropLast, c.n = eps := by
  obtain ⟨cl, hl, _, _, hsub⟩ := listed_spec eps heps ops sp
  exact ⟨cl, hl, fun c hc => closed_full heps hconst c (hsub hc)⟩

/-- Several sessions: the shards they list for a split, one session after the other (a session appends to the list
loaded from disk), all respect the bounds. -/
theorem C10_sessions (eps : Nat) (heps : 1 ≤ eps) (sessions : List (List Op)) (sp : Nat) :
    ∀ c ∈ sessions.flatMap (fun ops => (listed eps ops sp).getD []),
      1 ≤ c.n ∧ c.n ≤ eps ∧ c.n = c.exs.length := by
  intro c hc
  obtain ⟨ops, _, hc⟩ := List.mem_flatMap.1 hc
  obtain ⟨cl, h1, h2⟩ := C10_shard_size_bounds eps heps ops sp
  rw [h1] at hc
  exact h2 c hc

/-- Non-vacuity. -/
example : (listed 2 [.write 0 0 1 true, .write 1 0 9 true, .write 0 0 2 true, .write 0 0 3 false,
    .write 0 0 4 true, .write 0 0 5 true, .write 0 0 6 true] 0).map (·.map (·.n)) = some [2, 2, 1] := by
  decide +kernel

/-- `eps ≥ 1` is needed: with `eps = 0` the very first write tries to close an empty shard. -/
example : (run (fixed 0) St.init [.write 0 0 1 true]).2 = [.closeFailed] := by decide +kernel

end Sedpack.Fill
