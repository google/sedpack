import SedpackProps.C10
/-!
# C10 — the number of shards of a split is the ceiling

From the facts behind `C10_shard_size_bounds` and `C10_full_except_last` (`listed_spec`, `closed_full`): within one writing
session and split, as long as the shard-level metadata does not change, `N` accepted examples are stored in exactly
`⌈N / examples_per_shard⌉` shards — for every `examples_per_shard ≥ 1`, every `N` (0, 1, multiples of the size and ±1
included), every interleaving with other splits and every number of rejected writes in between.
-/
namespace Sedpack.Fill

theorem sum_bounds_of_full_except_last (eps : Nat) (heps : 1 ≤ eps) (ns : List Nat) (hd : ∀ n ∈ ns.dropLast, n = eps)
    (h : ∀ n ∈ ns, 1 ≤ n ∧ n ≤ eps) : ns.sum ≤ ns.length * eps ∧ ns.length * eps < ns.sum + eps := by
  rcases List.eq_nil_or_concat ns with rfl | ⟨L, a, rfl⟩
  · exact ⟨Nat.zero_le _, by simpa using show 0 < eps from heps⟩
  · rw [List.concat_eq_append] at hd h ⊢
    rw [List.dropLast_concat] at hd
    have ha := h a (by simp)
    rw [List.eq_replicate_iff.2 ⟨rfl, hd⟩]
    -- `L.length * eps + a` against `(L.length + 1) * eps`
    suffices a ≤ eps ∧ 0 < a by simpa [Nat.add_mul, Nat.add_assoc]
    exact ⟨ha.2, ha.1⟩

/-- **Shard count.** With constant shard metadata a session stores the `N` accepted examples of a split in exactly
`⌈N / eps⌉ = (N + eps - 1) / eps` shards. -/
theorem C10_shard_count_is_ceiling (eps : Nat) (heps : 1 ≤ eps) (ops : List Op) (sp m : Nat) (hconst : ConstMd ops sp m) :
    ∃ cl, listed eps ops sp = some cl ∧ cl.length = ((accepted ops sp).length + eps - 1) / eps := by
  obtain ⟨cl, hl, hok, hacc, hsub⟩ := listed_spec eps heps ops sp
  refine ⟨cl, hl, ?_⟩
  have hb := sum_bounds_of_full_except_last eps heps (cl.map (·.n))
    (by rw [← List.map_dropLast]; exact List.forall_mem_map.2 fun c hc => closed_full heps hconst c (hsub hc))
    (List.forall_mem_map.2 fun c hc => ⟨(hok c hc).pos, (hok c hc).le⟩)
  rw [List.length_map, sum_n_eq_length hok, hacc] at hb
  -- `k * eps ≤ N + eps - 1 < (k + 1) * eps` with `k = cl.length`
  refine (Nat.div_eq_of_lt_le (Nat.le_sub_one_of_lt hb.2) ?_).symm
  rw [Nat.succ_mul]
  exact Nat.lt_of_lt_of_le (Nat.sub_one_lt (Nat.ne_of_gt (Nat.add_pos_right _ heps))) (Nat.add_le_add_right hb.1 eps)

/-- non-vacuity -/
example : ((listed 2 [.write 0 0 1 true, .write 0 0 2 true, .write 0 0 3 false, .write 0 0 4 true, .write 0 0 5 true,
    .write 0 0 6 true] 0).map (·.length)) = some 3 := by decide +kernel

end Sedpack.Fill
