import SedpackProps.C03System
/-!
# C10, end to end: every shard a reader can reach holds between 1 and `examples_per_shard` examples

`C10.lean` proves the bound for the shards a filler closes; this file carries it through M-TREE: after any history of filler
sessions (each with its own stream, splits and naming), every shard enumerated for any split satisfies the bound and its
recorded `number_of_examples` equals the number of examples stored in it.
-/
namespace Sedpack.System

def ShardOK (eps : Nat) (sh : Tree.Shard) : Prop := 1 ≤ sh.n ∧ sh.n ≤ eps ∧ sh.n = sh.exs.length

theorem shardOK_toShard {eps c} (h : Fill.ListedOK eps c) (file : Nat) : ShardOK eps (toShard file c) :=
  ⟨h.pos, h.le, by simp [toShard, h.len]⟩

/-- **C10 at the reader's end.** In a dataset (without unlinked lists) all of whose enumerated shards hold between 1 and
`eps` examples, with exactly the recorded number stored, the same is true after any root filler session — for every
operation sequence. -/
theorem C10_enumerated_shards_in_bounds (H : Tree.SList → Nat) (B fuel eps : Nat) (hfuel : B < fuel + 1) (hB : 1 ≤ B) (heps : 1 ≤ eps)
    (ds : Tree.DS) (hg : Tree.Good H B ds) (hl : Tree.Linked ds.fs) (ops : List Fill.Op) (name : Nat → Nat → Nat) (splits : List Nat)
    (s : Nat) (hold : ∀ sh ∈ Tree.shardsOf fuel ds.fs [s], ShardOK eps sh) :
    ∀ sh ∈ Tree.shardsOf fuel (Tree.session H fuel ds (fillerSession eps ops name splits)).fs [s], ShardOK eps sh :=
  session_all hfuel hB hg hl (fun _ _ _ _ hcl hc => shardOK_toShard (Fill.listed_ok heps hcl hc) _) hold

/-- Non-vacuity (two sessions). -/
example :
    let H : Tree.SList → Nat := fun l => l.n
    let ops1 : List Fill.Op := [.write 0 0 10 true, .write 1 0 11 true, .write 0 0 12 false, .write 0 0 13 true, .write 0 0 14 true]
    let ops2 : List Fill.Op := [.write 0 0 20 true]
    let ds1 := Tree.session H 4 { fs := fun _ => none, splits := fun _ => none } (fillerSession 2 ops1 (fun s i => 100 * s + i) [0, 1])
    let ds2 := Tree.session H 4 ds1 (fillerSession 2 ops2 (fun s i => 100 * s + 50 + i) [0, 1])
    (examples (Tree.shardsOf 4 ds2.fs [0]), examples (Tree.shardsOf 4 ds2.fs [1])) = ([10, 13, 14, 20], [11]) := by decide +kernel

/-- **Every history of filler sessions, from any dataset whose enumerated shards are within bounds**: every enumerated shard
of every split is within bounds. -/
theorem C10_history_in_bounds (H : Tree.SList → Nat) (B fuel eps : Nat) (hfuel : B < fuel + 1) (hB : 1 ≤ B) (heps : 1 ≤ eps) (s : Nat) :
    ∀ (hist : List Run) (ds : Tree.DS), Tree.Good H B ds → Tree.Linked ds.fs →
      (∀ sh ∈ Tree.shardsOf fuel ds.fs [s], ShardOK eps sh) →
      ∀ sh ∈ Tree.shardsOf fuel (hist.foldl (fun d r => Tree.session H fuel d (fillerSession eps r.ops r.name r.splits)) ds).fs [s],
        ShardOK eps sh :=
  history_all hfuel hB fun _ _ _ _ _ hcl hc => shardOK_toShard (Fill.listed_ok heps hcl hc) _

end Sedpack.System
