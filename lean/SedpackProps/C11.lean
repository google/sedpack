import SedpackProps.C10
/-!
# C11 — Shard-level custom metadata describes exactly the examples it labels

The model stores the *value* the metadata argument had at the time of the write (the repaired code
deep-copies it), so later mutation or reuse of the caller's object cannot reach the stored value:
an op list is the list of values at call time.  Reading applied: examples written with *absent*
metadata are unconstrained (the code labels them retroactively, as its docstring says).
-/
namespace Sedpack.Fill

/-- Every accepted write with a non-empty metadata value `m` is stored in a listed shard whose
recorded metadata is `m` — for every interleaving of splits, values, rejections and size boundaries. -/
theorem C11_md_labels (eps : Nat) (heps : 1 ≤ eps) (ops : List Op) (sp : Nat) :
    ∃ cl, listed eps ops sp = some cl ∧
      ∀ c ∈ cl, ∀ q ∈ c.exs, q.2 ≠ 0 → c.md = q.2 := by
  obtain ⟨cl, hl, hok, _, _⟩ := listed_spec eps heps ops sp
  exact ⟨cl, hl, fun c hc q hq h0 => ((hok c hc).lab q hq h0).symm⟩

/-- Exactly the accepted writes of the split are stored, each once, in the order written
(also the session-order fact C03 needs). -/
theorem C11_every_write_listed_once (eps : Nat) (heps : 1 ≤ eps) (ops : List Op) (sp : Nat) :
    ∃ cl, listed eps ops sp = some cl ∧ cl.flatMap (·.exs) = accepted ops sp := by
  obtain ⟨cl, hl, _, hacc, _⟩ := listed_spec eps heps ops sp
  exact ⟨cl, hl, hacc⟩

/-- Selecting shards by metadata `m ≠ 0` returns all examples written under `m` and none written
under a different non-empty value. -/
theorem C11_select_by_md (eps : Nat) (heps : 1 ≤ eps) (ops : List Op) (sp m : Nat) (hm : m ≠ 0) :
    ∃ cl, listed eps ops sp = some cl ∧
      let sel := (cl.filter (fun c => c.md = m)).flatMap (·.exs)
      (∀ q ∈ accepted ops sp, q.2 = m → q ∈ sel) ∧ (∀ q ∈ sel, q.2 = 0 ∨ q.2 = m) := by
  obtain ⟨cl, hl, hok, hacc, _⟩ := listed_spec eps heps ops sp
  refine ⟨cl, hl, fun q hq hqm => ?_, fun q hq => ?_⟩
  · obtain ⟨c, hc, hqc⟩ := List.mem_flatMap.1 (hacc ▸ hq)
    have hcm : c.md = m := ((hok c hc).lab q hqc (hqm ▸ hm)).symm.trans hqm
    exact List.mem_flatMap.2 ⟨c, List.mem_filter.2 ⟨hc, decide_eq_true hcm⟩, hqc⟩
  · obtain ⟨c, hc, hqc⟩ := List.mem_flatMap.1 hq
    obtain ⟨hc, hcm⟩ := List.mem_filter.1 hc
    exact (Decidable.em (q.2 = 0)).imp_right fun h0 => ((hok c hc).lab q hqc h0).trans (of_decide_eq_true hcm)

/-! ## The pinned code's reference semantics (defect D3), as a machine-checked witness

`current_progress.shard.shard_info.custom_metadata = custom_metadata` stores the caller's dict
itself.  `heap o` is the current value of object `o`; the shard keeps the object id and the value
is read when the list is serialised (after all writes). -/

structure RefShard where
  ref : Option Nat
  exs : List (Nat × Nat)      -- (example, metadata value at the time of the write)
deriving Repr, DecidableEq

inductive RefOp
  | write (obj ex : Nat)       -- write_example(custom_metadata=<object obj>)
  | mutate (obj val : Nat)     -- the caller changes the object in place
deriving Repr, DecidableEq

/-- single split, no size roll-over: just the metadata logic of the pinned code -/
def refStep (st : (Nat → Nat) × List RefShard × RefShard) : RefOp → (Nat → Nat) × List RefShard × RefShard
  | .mutate o v => (fun x => if x = o then v else st.1 x, st.2.1, st.2.2)
  | .write o ex =>
    let heap := st.1
    let cur := st.2.2
    let prev := (cur.ref.map heap).getD 0
    if heap o ≠ 0 ∧ prev ≠ 0 ∧ heap o ≠ prev then
      (heap, st.2.1 ++ [cur], { ref := some o, exs := [(ex, heap o)] })
    else (heap, st.2.1, { ref := if heap o ≠ 0 then some o else cur.ref, exs := cur.exs ++ [(ex, heap o)] })

def refRun (ops : List RefOp) : List (Nat × List (Nat × Nat)) :=
  let st := ops.foldl refStep (fun _ => 1, [], { ref := none, exs := [] })
  (st.2.1 ++ [st.2.2]).map (fun s => ((s.ref.map st.1).getD 0, s.exs))

/-- D3: `write(m); m.update(...); write(m)` — the first example was written under value 1 but is
stored in a shard labelled 2, and the change of value did not even start a new shard. -/
theorem C11_alias_counterexample :
    refRun [.write 7 100, .mutate 7 2, .write 7 101] = [(2, [(100, 1), (101, 2)])] := by
  decide +kernel

/-- Non-vacuity of `C11_md_labels`: alternating values across a size boundary. -/
example : (listed 2 [.write 0 1 10 true, .write 0 1 11 true, .write 0 1 12 true, .write 0 2 13 true,
    .write 0 0 14 true] 0).map (·.map (fun c => (c.md, c.exs))) =
    some [(1, [(10, 1), (11, 1)]), (1, [(12, 1)]), (2, [(13, 2), (14, 0)])] := by decide +kernel

end Sedpack.Fill
