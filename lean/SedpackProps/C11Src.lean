import SedpackProps.SrcGen
/-!
# C11 — the label a shard receives is a *copy*, in the current source

M-FILL attaches metadata by value (`C11_md_labels`); `C11_alias_counterexample` shows that attaching the caller's object
itself breaks the property as soon as the caller changes that object in place.  Re-checked against the source text extracted on
this run: what `write_example` assigns to the open shard's `custom_metadata` went through `deepcopy` first.
-/
namespace Sedpack.Src

/-- the value assigned to the shard's label is produced by `deepcopy`, immediately before the assignment -/
theorem C11_src_label_is_deep_copy :
    (allBefore writeExample "deepcopy" "set:custom_metadata"
      && (last writeExample "deepcopy").map (· + 1) == first writeExample "set:custom_metadata") = true := by decide +kernel
/-- the label is attached only after the example was accepted by the shard (the statement of `C18_src_write_before_attach`) -/
theorem C11_src_label_after_write : allBefore writeExample "write" "set:custom_metadata" = true := by decide +kernel
/-- whether the metadata changed is decided (`!=`) before any roll-over and before the write -/
theorem C11_src_change_test_first :
    (allBefore writeExample "cmp:NotEq" "close_shard" && allBefore writeExample "cmp:NotEq" "write") = true := by decide +kernel

/-- "selecting shards by metadata": the selection is recomputed from the shard infos on every call — the predicate is applied
(`filter`) to what `shard_info_iterator` enumerates now, and nothing is remembered on the dataset object between selections -/
theorem C11_src_selection_recomputed :
    (shardPathsDataset.head? == some "shard_info_iterator" && allBefore shardPathsDataset "shard_info_iterator" "filter"
      && !hasSelfStore shardPathsDataset && !hasSelfStore asNumpyCommon) = true := by decide +kernel

end Sedpack.Src
