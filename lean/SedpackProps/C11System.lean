import SedpackProps.C03System
/-!
# C11, end to end: every shard a reader can reach is labelled with the metadata of the examples stored in it

`C11.lean` proves the labelling for the shards a filler closes (M-FILL); this file carries it through M-TREE: after any
history of filler sessions every shard entry enumerated for any split is the record of a closed shard all of whose examples
that were written under a non-empty metadata value were written under exactly the recorded one.
-/
namespace Sedpack.System
open Sedpack

/-- where an enumerated shard entry comes from: it was enumerable before, or it is the record the filler made of one of
the shards M-FILL closed for some split in this session.  `heps` is not used: the origin does not depend on the shard size. -/
theorem C11_enumerated_shard_origin (H : Tree.SList → Nat) (B fuel eps : Nat) (hfuel : B < fuel + 1) (hB : 1 ≤ B) (heps : 1 ≤ eps)
    (ds : Tree.DS) (hg : Tree.Good H B ds) (hl : Tree.Linked ds.fs) (ops : List Fill.Op) (name : Nat → Nat → Nat) (splits : List Nat)
    (s : Nat) (sh : Tree.Shard)
    (hsh : sh ∈ Tree.shardsOf fuel (Tree.session H fuel ds (fillerSession eps ops name splits)).fs [s]) :
    sh ∈ Tree.shardsOf fuel ds.fs [s] ∨
      ∃ a i cl c, Fill.listed eps ops a = some cl ∧ c ∈ cl ∧ sh = toShard (name a i) c := by
  revert sh
  exact session_all hfuel hB hg hl (fun a i cl c hcl hc => Or.inr ⟨a, i, cl, c, hcl, hc, rfl⟩) fun _ => Or.inl

def LabelOK (sh : Tree.Shard) : Prop :=
  ∃ c : Fill.Closed, sh.md = c.md ∧ sh.exs = c.exs.map (·.1) ∧ sh.n = c.n ∧ ∀ q ∈ c.exs, q.2 ≠ 0 → sh.md = q.2

theorem labelOK_toShard {eps c} (h : Fill.ListedOK eps c) (file : Nat) : LabelOK (toShard file c) :=
  ⟨c, rfl, rfl, rfl, fun q hq h0 => (h.lab q hq h0).symm⟩

/-- **C11 at the reader's end**, one session: if every enumerated shard entry was labelled correctly, every one still is. -/
theorem C11_enumerated_shards_labelled (H : Tree.SList → Nat) (B fuel eps : Nat) (hfuel : B < fuel + 1) (hB : 1 ≤ B) (heps : 1 ≤ eps)
    (ds : Tree.DS) (hg : Tree.Good H B ds) (hl : Tree.Linked ds.fs) (ops : List Fill.Op) (name : Nat → Nat → Nat) (splits : List Nat)
    (s : Nat) (hold : ∀ sh ∈ Tree.shardsOf fuel ds.fs [s], LabelOK sh) :
    ∀ sh ∈ Tree.shardsOf fuel (Tree.session H fuel ds (fillerSession eps ops name splits)).fs [s], LabelOK sh :=
  session_all hfuel hB hg hl (fun _ _ _ _ hcl hc => labelOK_toShard (Fill.listed_ok heps hcl hc) _) hold

/-- **Every history of filler sessions, from any dataset whose enumerated shards are labelled correctly.** -/
theorem C11_history_labelled (H : Tree.SList → Nat) (B fuel eps : Nat) (hfuel : B < fuel + 1) (hB : 1 ≤ B) (heps : 1 ≤ eps) (s : Nat) :
    ∀ (hist : List Run) (ds : Tree.DS), Tree.Good H B ds → Tree.Linked ds.fs →
      (∀ sh ∈ Tree.shardsOf fuel ds.fs [s], LabelOK sh) →
      ∀ sh ∈ Tree.shardsOf fuel (hist.foldl (fun d r => Tree.session H fuel d (fillerSession eps r.ops r.name r.splits)) ds).fs [s],
        LabelOK sh :=
  history_all hfuel hB fun _ _ _ _ _ hcl hc => labelOK_toShard (Fill.listed_ok heps hcl hc) _

/-- Non-vacuity. -/
example : LabelOK (toShard 5 { md := 2, n := 2, exs := [(10, 2), (11, 0)], why := .exit }) :=
  ⟨_, rfl, rfl, rfl, by decide⟩

end Sedpack.System
