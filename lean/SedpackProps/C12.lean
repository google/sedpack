import SedpackProofs.Select
import SedpackProps.C12Gen
/-!
# C12 — Shard selection options mean the same thing in every iteration interface

`select` (SedpackModel/Select.lean) is the single selection routine.  Quantifiers: every shard list, every predicate, every `k`,
every per-metadata limit.  With `C12_every_interface_forwards` and C02, the examples yielded are exactly those of the shards
`select` returns, identically across interfaces.
-/
namespace Sedpack.Sel

/-- the selection is an order-preserving sub-list of the enumeration -/
theorem C12_select_sublist (infos : List ShardI) (f : Option (ShardI → Bool)) (k : Option Int) (n : Option Nat)
    (out : List ShardI) (h : select infos f k n = .ok out) : out.Sublist infos :=
  (select_sublist_filter h).trans (stageFilter_sublist infos f)

/-- restricting to the first `k ≥ 1` shards: exactly the first `k` (all of them if fewer exist) -/
theorem C12_select_firstk (infos : List ShardI) (k : Nat) (hk : 1 ≤ k) (hne : infos ≠ []) :
    select infos none (some (k : Int)) none = .ok (infos.take k) :=
  select_eq_ok.2 ⟨hne, stageFirstK_pos hk infos⟩

/-- a predicate keeps exactly the shards it accepts, in order -/
theorem C12_select_filter (infos : List ShardI) (p : ShardI → Bool) (hne : infos.filter p ≠ []) :
    select infos (some p) none none = .ok (infos.filter p) :=
  select_eq_ok.2 ⟨hne, rfl⟩

/-- at most `n ≥ 1` shards per distinct metadata value: for every value exactly the first
`min n count` shards of that value, in order -/
theorem C12_select_limit (infos : List ShardI) (n : Nat) (hn : 1 ≤ n) (out : List ShardI)
    (h : select infos none none (some n) = .ok out) (m : Nat) :
    out.filter (fun s => s.md = m) = (infos.filter (fun s => s.md = m)).take n := by
  rw [← (select_eq_ok.1 h).2, stageLimit_pos hn]
  exact limitLoop_filter n m infos _

/-- a selection that matches no shard is an error, never an empty pass -/
theorem C12_select_empty_is_error (infos : List ShardI) (f : Option (ShardI → Bool)) (k : Option Int) (n : Option Nat)
    (h : stageFilter infos f = []) : select infos f k n = .error .emptySelection := by
  simp [select, h]

/-- … and a successful selection is never empty (for `k ≥ 1`, `n ≥ 1`) -/
theorem C12_select_nonempty (infos : List ShardI) (f : Option (ShardI → Bool)) (k n : Nat) (hk : 1 ≤ k) (hn : 1 ≤ n)
    (out : List ShardI) (h : select infos f (some (k : Int)) (some n) = .ok out) : out ≠ [] := by
  obtain ⟨hne, rfl⟩ := select_eq_ok.1 h
  rw [stageFirstK_pos hk, stageLimit_pos hn]
  exact limitLoop_ne_nil (fun _ => hn) (mt List.take_eq_nil_iff.1 (not_or.2 ⟨Nat.ne_of_gt hk, hne⟩))

/-- **Generated table**: every interface that accepts a selection option passes it on to the
selection feeding its reader (re-extracted from the source and re-checked on every run). -/
theorem C12_every_interface_forwards :
    ∀ row ∈ Gen.wiring, row.2.2.2.1 = true → row.2.2.2.2 = true := by decide +kernel

/-- Non-vacuity. -/
example : select [⟨0, 1⟩, ⟨1, 1⟩, ⟨2, 2⟩, ⟨3, 1⟩, ⟨4, 2⟩, ⟨5, 2⟩, ⟨6, 1⟩] none none (some 1) = .ok [⟨0, 1⟩, ⟨2, 2⟩] := by rfl

/-- **Options that select nothing away do nothing**: with a predicate, a shard count and a per-metadata limit that are both at
least the number of shards the predicate keeps, the selection is exactly the predicate's. -/
theorem C12_nonbinding_options (infos : List ShardI) (p : ShardI → Bool) (k n : Nat) (hne : infos.filter p ≠ [])
    (hk : (infos.filter p).length ≤ k) (hn : (infos.filter p).length ≤ n) :
    select infos (some p) (some (k : Int)) (some n) = .ok (infos.filter p) := by
  have hpos := List.length_pos_iff.2 hne
  refine select_eq_ok.2 ⟨hne, ?_⟩
  rw [stageFilter_some, stageFirstK_pos (Nat.lt_of_lt_of_le hpos hk), stageLimit_pos (Nat.lt_of_lt_of_le hpos hn),
    List.take_of_length_le hk, limitLoop_all n _ _ fun _ => by rw [Nat.zero_add]; exact hn]

/-- with every combination of options, whatever is selected satisfies the predicate -/
theorem C12_selected_satisfy_predicate (infos : List ShardI) (p : ShardI → Bool) (k : Option Int) (n : Option Nat) (out : List ShardI)
    (h : select infos (some p) k n = .ok out) : ∀ s ∈ out, p s = true :=
  fun _ hs => (List.mem_filter.1 ((select_sublist_filter h).subset hs)).2

end Sedpack.Sel
