import SedpackProps.C12
/-!
# C12 — all three options together

`C12_select_firstk`, `C12_select_filter` and `C12_select_limit` describe each option alone.  A caller may give all three;
the order in which `shard_info_iterator`'s consumers apply them matters (the predicate first, then the first `k` of what it
accepted, then the per-metadata limit on that).  The theorem below is the closed form of the combination for every
dataset, predicate, `k ≥ 1` and `n ≥ 1`.
-/
namespace Sedpack.Sel

/-- **Predicate, then first `k`, then at most `n` per metadata value**: the whole selection in closed form, and per
metadata value `m` exactly the first `n` shards with that value among the first `k` accepted ones, in order. -/
theorem C12_select_combined (infos : List ShardI) (p : ShardI → Bool) (k n : Nat) (hk : 1 ≤ k) (hn : 1 ≤ n)
    (out : List ShardI) (h : select infos (some p) (some (k : Int)) (some n) = .ok out) :
    out = limitLoop n ((infos.filter p).take k) (fun _ => 0) ∧
    ∀ m, out.filter (fun s => s.md = m) = (((infos.filter p).take k).filter (fun s => s.md = m)).take n := by
  rw [← (select_eq_ok.1 h).2, stageFirstK_pos hk, stageLimit_pos hn]
  exact ⟨rfl, fun m => limitLoop_filter n m _ _⟩

/-- the combination never selects a shard the predicate rejects, nor one beyond the first `k` accepted -/
theorem C12_select_combined_sub (infos : List ShardI) (p : ShardI → Bool) (k n : Nat) (hk : 1 ≤ k) (hn : 1 ≤ n)
    (out : List ShardI) (h : select infos (some p) (some (k : Int)) (some n) = .ok out) :
    out.Sublist ((infos.filter p).take k) :=
  (C12_select_combined infos p k n hk hn out h).1 ▸ limitLoop_sublist n _ _

/-- non-vacuity; the order of the stages shows: shard 6 passes the predicate but lies beyond the first five accepted, shard 4 is
the third of value 1 -/
example : select [⟨0, 1⟩, ⟨1, 1⟩, ⟨2, 2⟩, ⟨3, 1⟩, ⟨4, 1⟩, ⟨5, 2⟩, ⟨6, 2⟩] (some (fun s => s.id != 1)) (some 5) (some 2) =
    .ok [⟨0, 1⟩, ⟨2, 2⟩, ⟨3, 1⟩, ⟨5, 2⟩] := by rfl

end Sedpack.Sel
