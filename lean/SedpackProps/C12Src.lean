import SedpackProps.SrcGen
/-!
# C12 — the selection is recomputed for every pass, in the current source

`Sel.select` is a function of the enumerated shard infos and the three options.  Re-checked against the source text extracted
on this run: `shard_paths_dataset` starts from `shard_info_iterator`, applies the predicate (`filter`) first, refuses an empty
selection, and stores nothing on the dataset object.  (That the Python interfaces obtain their paths from it is
`C02_src_pass_starts_from_the_description`; `as_numpy_iterator_rust` goes through `RustGenerator`.)
-/
namespace Sedpack.Src

theorem C12_src_selection_is_recomputed :
    (shardPathsDataset.head? == some "shard_info_iterator" && !hasSelfStore shardPathsDataset && !hasSelfStore asNumpyCommon
      && !hasSelfStore asTfdataset && !hasSelfStore asNumpyIteratorRust) = true := by decide +kernel
/-- predicate first, then the emptiness test; the per-metadata counter (`set:counts`, `cmp:LtE`) comes after both -/
theorem C12_src_filter_then_empty_then_limit :
    (allBefore shardPathsDataset "filter" "raise" && allBefore shardPathsDataset "raise" "set:counts"
      && allBefore shardPathsDataset "set:counts" "cmp:LtE" && allBefore shardPathsDataset "cmp:LtE" "return") = true := by decide +kernel

end Sedpack.Src
