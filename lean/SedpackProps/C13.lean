import SedpackProofs.PoolReuse
/-!
# C13 — The lazy thread pool is correct under every thread interleaving

All statements are about M-POOL (`SedpackModel/Pool.lean`): one label per queue operation, so
"every interleaving of the `T` workers and the consumer" is "every label list the model accepts",
and "every reachable state" is `Reach c s`.  Quantifiers: every thread count `T ≥ 1`, every
prefill count `P ≥ T` (the code uses `2T+2`), every input length (finite `n` or infinite), every
early-exit position (`cAbandon` is enabled whenever the consumer is between two results), every
set of failing inputs.  `forward = true` is the repaired code (a worker forwards the exception of
the mapped function); `C13_original_deadlocks` is the witness for the pinned code.
-/
namespace Sedpack.Pool

structure Good (c : Cfg) : Prop where
  fw : c.forward = true
  T1 : 1 ≤ c.T
  TP : c.T ≤ c.P

theorem C13_invariant (c : Cfg) (g : Good c) (s : St) (h : Reach c s) : Inv c s :=
  inv_reach g.fw (Nat.le_trans g.T1 g.TP) h

/-- **Exactly once.** Whenever a pass ends normally — under any interleaving — the input was
finite and the yielded indices are a permutation of `0..n-1`: one result per input, none twice. -/
theorem C13_exactly_once (c : Cfg) (g : Good c) (s : St) (h : Reach c s) (hend : normalEnd s) :
    ∃ n, c.n = some n ∧ s.out.Perm (List.range n) :=
  normalEnd_perm c g.fw g.T1 g.TP s h hend

/-- **No silent end on failure.** If the mapped function fails on some input `i < n`, no
interleaving lets the pass end normally: the consumer re-raises (or is still running). -/
theorem C13_fault_no_silent_end (c : Cfg) (g : Good c) (n i : Nat) (hn : c.n = some n) (hi : i < n)
    (hf : c.fails i = true) (s : St) (h : Reach c s) : ¬ normalEnd s := by
  intro hend
  obtain ⟨n', hn', hp⟩ := C13_exactly_once c g s h hend
  cases hn.symm.trans hn'
  -- `i` was yielded, but only inputs on which the function does not fail are
  cases hf.symm.trans ((C13_invariant c g s h).okout i (hp.symm.subset (List.mem_range.mpr hi)))

/-- **Deadlock freedom.** In every reachable state some thread can move, unless the pass is over
and every worker thread has returned — also when the mapped function fails. -/
theorem C13_deadlock_free (c : Cfg) (g : Good c) (s : St) (h : Reach c s) (hnt : ¬ terminal s) :
    ∃ l, (step c s l).isSome = true :=
  progress c g.fw g.T1 g.TP s (C13_invariant c g s h) hnt

/-- **Termination.** For a finite input of length `n`, every schedule is finite: any label list
accepted from a reachable state `s` has at most `mu c n s` labels (a bound that depends only on
`T`, `P`, `n` at the start: `mu c n (init c) = 5 (P + n + T) + 2`). -/
theorem C13_terminates (c : Cfg) (g : Good c) (n : Nat) (hn : c.n = some n) (s s' : St) (h : Reach c s)
    (tr : List Lbl) (hacc : accepts c s tr = some s') : tr.length ≤ mu c n s :=
  Nat.le_trans (Nat.le_add_right ..) ((replays c).measure (P := Reach c) (fun hr hs =>
    ⟨hr.step hs, mu_decreases (fun _ => hn) (C13_invariant c g _ hr) hs⟩) h hacc).2

/-- **Early exit drains the pool** (finite *and infinite* inputs): once the consumer has left
its loop — normal end, re-raised failure or abandoned iteration followed by `finish_and_reset` —
every continuation is finite, and a state where nothing more can happen has all worker threads
returned. -/
theorem C13_early_exit_drains (c : Cfg) (g : Good c) (s s' : St) (h : Reach c s) (hnc : counting s.ph = false)
    (tr : List Lbl) (hacc : accepts c s tr = some s') :
    tr.length ≤ mu c 0 s ∧ ((∀ l, step c s' l = none) → terminal s') := by
  obtain ⟨⟨hr', -⟩, hb⟩ := (replays c).measure (P := fun s => Reach c s ∧ counting s.ph = false) (fun hp hs =>
    ⟨⟨hp.1.step hs, (Step.of_step hs).frozen hp.2⟩,
      mu_decreases (fun h => nomatch hp.2.symm.trans h) (C13_invariant c g _ hp.1) hs⟩) ⟨h, hnc⟩ hacc
  refine ⟨Nat.le_trans (Nat.le_add_right ..) hb, fun hstuck => Classical.byContradiction fun hnt => ?_⟩
  obtain ⟨l, hl⟩ := C13_deadlock_free c g s' hr' hnt
  rw [hstuck l] at hl; cases hl

/-- **Bounded read-ahead** (also used by C14): while the consumer is in its loop it has taken at
most `P` more inputs from the source than it has yielded results. -/
theorem C13_inflight (c : Cfg) (g : Good c) (s : St) (h : Reach c s) :
    counting s.ph = true → s.p ≤ s.out.length + c.P := fun hc => by
  have hi := C13_invariant c g s h
  cases hph : s.ph with
  | prefill => exact Nat.le_add_left_of_le (Nat.le_of_lt (hi.pre hph).1)
  | waiting => exact Nat.le_of_eq ((hi.inflight (.inl hph)).trans (Nat.add_comm ..))
  | got i => exact Nat.le_of_eq ((hi.inflight (.inr ⟨i, hph⟩)).trans (Nat.add_comm ..))
  | resetting | fin => rw [hph] at hc; cases hc

/-- While the consumer is in its loop it has yielded no input twice.  (That it never yields a result of a
failing input is the field `okout` of the invariant.) -/
theorem C13_no_duplicates (c : Cfg) (g : Good c) (s : St) (h : Reach c s) (hc : counting s.ph = true) (i : Nat) :
    s.out.count i ≤ 1 := by
  have hi := C13_invariant c g s h
  have hix := hi.idx hc i
  rw [taken_counting hi hc, msgIdx_pref] at hix
  refine Nat.le_trans (Nat.le_add_left ..) (Nat.le_trans (Nat.le_of_eq hix) ?_)
  split <;> decide

/-! ## Re-use of the pool object

A pool object over its life time (`Multi`): the current pass plus earlier passes whose worker threads
may still be draining their own, forgotten queues.  `newPass` (`imap_unordered` on a pool whose
previous pass has gone through `finish_and_reset`) is enabled exactly then. -/

/-- **The pool can be re-used.** In every reachable state of the pool object — any number of passes,
earlier ones abandoned at any point, with any failing inputs, their workers interleaved arbitrarily
with the current pass — the current pass is a reachable state of a *fresh* single pass, and every
earlier pass is a reachable single-pass state that has been through `finish_and_reset`. -/
theorem C13_reuse_is_fresh_pass (cs : Nat → Cfg) (m : Multi) (h : MReach cs m) :
    Reach (cs m.past.length) m.cur ∧
    ∀ g (hg : g < m.past.length), Reach (cs g) m.past[g] ∧ ∃ why, m.past[g].ph = .fin why :=
  ⟨(minv_reach h).cur, fun g hg => (minv_reach h).past g _ (List.getElem?_eq_getElem hg)⟩

/-- Hence every pass of a re-used pool is exactly-once, whatever earlier passes left behind. -/
theorem C13_reuse_exactly_once (cs : Nat → Cfg) (hg : ∀ g, Good (cs g)) (m : Multi) (h : MReach cs m)
    (hend : normalEnd m.cur) : ∃ n, (cs m.past.length).n = some n ∧ m.cur.out.Perm (List.range n) :=
  C13_exactly_once _ (hg _) _ (C13_reuse_is_fresh_pass cs m h).1 hend

/-- … and the worker threads of every earlier pass terminate: their remaining schedule is finite and
ends with all of them returned (also for an infinite input abandoned half-way). -/
theorem C13_reuse_old_workers_drain (cs : Nat → Cfg) (hg : ∀ g, Good (cs g)) (m : Multi) (h : MReach cs m)
    (g : Nat) (hlt : g < m.past.length) (tr : List Lbl) (s' : St) (hacc : accepts (cs g) m.past[g] tr = some s') :
    tr.length ≤ mu (cs g) 0 m.past[g] ∧ ((∀ l, step (cs g) s' l = none) → terminal s') := by
  obtain ⟨hr, why, hph⟩ := (C13_reuse_is_fresh_pass cs m h).2 g hlt
  exact C13_early_exit_drains (cs g) (hg g) _ s' hr (by rw [hph]; rfl) tr hacc

/-- a new pass cannot start while the previous one has not been reset (the code's `assert`s) -/
theorem C13_newPass_needs_reset (cs : Nat → Cfg) (m m' : Multi) (h : mstep cs m .newPass = some m') :
    ∃ why, m.cur.ph = .fin why :=
  let ⟨why, hph, _⟩ := mstep_newPass h; ⟨why, hph⟩

def stuckCfg : Cfg := { T := 1, P := 4, n := some 1, fails := fun _ => true, forward := false }
def stuckTrace : List Lbl := [.cPut, .cPut, .cPut, .cPut, .wGet 0, .wPut 0]

/-- D2 — `LazyPool(1)`, one input on which the function raises: after six queue operations the only worker is dead, the consumer
waits for a result with one "active" thread, and nothing but giving up is possible. -/
theorem C13_original_deadlocks : ∃ s, accepts stuckCfg (init stuckCfg) stuckTrace = some s ∧
    s.ph = .waiting ∧ s.active = 1 ∧ s.results = [] ∧ s.ws = [.dead] ∧
    ∀ l, step stuckCfg s l = none ∨ l = .cAbandon := by
  refine ⟨_, rfl, rfl, rfl, rfl, rfl, fun l => ?_⟩
  match l with
  | .cAbandon => exact .inr rfl
  | .cPut | .cGet | .cPutNext | .cFinish | .cReset | .wGet 0 | .wPut 0 | .wGet (_ + 1) | .wPut (_ + 1) => exact .inl rfl

/-- Non-vacuity: the code's configuration `T = 2, P = 2T+2 = 6` is `Good`, and one complete run over 3 inputs. -/
def demoCfg : Cfg := { T := 2, P := 6, n := some 3, fails := fun _ => false, forward := true }
example : Good demoCfg := ⟨rfl, by decide, by decide⟩
example : (accepts demoCfg (init demoCfg)
    [.cPut, .cPut, .cPut, .cPut, .cPut, .cPut, .wGet 0, .wGet 1, .wPut 1, .wPut 0, .cGet, .cPutNext, .wGet 0, .wPut 0,
     .cGet, .cPutNext, .cGet, .cPutNext, .wGet 1, .wPut 1, .wGet 0, .wPut 0, .cGet, .cGet, .cFinish]).map
      (fun s => (s.out, s.ph)) = some ([1, 0, 2], .resetting 0 0) := by decide +kernel

/-- Non-vacuity of the re-use theorems: pass 0 (infinite input) is abandoned after one result, pass 1
starts while worker 1 of pass 0 has not yet seen its sentinel, and both make progress interleaved. -/
def reuseCfgs : Nat → Cfg
  | 0 => { T := 2, P := 6, n := none, fails := fun _ => false, forward := true }
  | _ => { T := 2, P := 6, n := some 1, fails := fun _ => false, forward := true }
example : ((maccepts reuseCfgs (minit reuseCfgs)
    [.cur .cPut, .cur .cPut, .cur .cPut, .cur .cPut, .cur .cPut, .cur .cPut, .cur (.wGet 0), .cur (.wPut 0), .cur .cGet, .cur .cPutNext,
     .cur .cAbandon, .cur .cReset, .cur .cReset, .cur .cReset, .newPass,
     .cur .cPut, .old 0 (.wGet 1), .cur .cPut, .old 0 (.wPut 1), .cur (.wGet 0), .old 0 (.wGet 0)]).map
      (fun m => (m.past.length, m.cur.p, (m.past.map (·.q))))) = some (1, 2, [3]) := by decide +kernel

end Sedpack.Pool
