import SedpackProps.SrcGen
/-!
# C13 — leaving the pool's context always resets it, in the current source

M-POOL's `cAbandon` / `cFinish` labels stand for `finish_and_reset`, which sends one stop sentinel per worker; the theorems of
`C13.lean` (every worker terminates after the context is left, the pool can be reused) rest on `__exit__` reaching it on *every*
way out of the `with` block.  Re-checked against the source text extracted on this run.
-/
namespace Sedpack.Src

/-- `LazyPool.__exit__`: the reset is the very first thing that happens — nothing is tested and nothing returns before it,
whatever exception (if any) the block was left by -/
theorem C13_src_exit_resets_first : poolExit.head? = some "finish_and_reset" := rfl
/-- … and it happens exactly once, outside any branch (the three `noneBefore` conjuncts also follow from
`C13_src_exit_resets_first`: nothing precedes the head) -/
theorem C13_src_exit_resets_unconditionally :
    (occurrences poolExit "finish_and_reset" == 1 && noneBefore poolExit "if" "finish_and_reset"
      && noneBefore poolExit "return" "finish_and_reset" && noneBefore poolExit "raise" "finish_and_reset") = true := by decide +kernel
/-- `finish_and_reset`: the stop sentinels are put on the queue before the queue is forgotten, and the bookkeeping is cleared first -/
theorem C13_src_reset_sends_then_forgets :
    (allBefore poolReset "StopSentinel" "set:_to_process" && allBefore poolReset "put" "set:_to_process"
      && allBefore poolReset "set:_active_threads" "put") = true := by decide +kernel
/-- the only early return of `finish_and_reset` is the one guarded by "no queue exists" (`is None`) -/
theorem C13_src_reset_single_guard :
    (occurrences poolReset "return" == 1 && occurrences poolReset "if" == 1 && allBefore poolReset "cmp:Is" "return") = true := by decide +kernel

/-- `imap_unordered`: the worker threads are started before any input is queued; in the main loop the refill `put` comes before the
`yield` (M-POOL: cGet, cPut, then the result is handed out); a forwarded failure resets the pool *before* it is re-raised; the
normal end resets too -/
theorem C13_src_imap_shape :
    (allBefore imapUnordered "start" "put" && allBefore imapUnordered "put" "yield" && allBefore imapUnordered "get" "yield"
      && noneBefore imapUnordered "raise" "finish_and_reset" && occurrences imapUnordered "finish_and_reset" == 2
      && (last imapUnordered "finish_and_reset").map (· + 1) == some imapUnordered.length) = true := by decide +kernel
/-- `Collector.run`: a stop sentinel is forwarded (`put`) before the thread returns; whatever the mapped function does — return or
raise — something is `put` afterwards (the failure wrapped in `RaisedException`) -/
theorem C13_src_collector_shape :
    (allBefore collectorRun "get" "func" && noneBefore collectorRun "return" "put" && allBefore collectorRun "func" "RaisedException"
      && (match last collectorRun "RaisedException", last collectorRun "put" with | some i, some j => decide (i < j) | _, _ => false)
      && occurrences collectorRun "return" == 1) = true := by decide +kernel

end Sedpack.Src
