import SedpackProofs.Pipe
import SedpackProps.C13
/-!
# C14 — Iteration is lazy: read-ahead is bounded by the configured buffers

Every bound below holds in *every reachable state* of the corresponding monitor (i.e. at every
instant of every run, for finite and infinite sources alike) and mentions only the buffer size /
thread count, never the length of the input.  Reading applied: the property bounds source
elements *read/decoded*; the shard-path shuffle buffer of `as_numpy_common` holds `#shards`
strings by construction (its `b` is the number of shards) and opens no file.
-/
namespace Sedpack.Pipe
open Sedpack.Iter

theorem sb_lengths (b : Nat) (s : SB) (h : SBReach b s) :
    s.pulled.length = s.out.length + s.buf.length + (pendL s).length := by
  simpa only [List.length_append] using (sb_inv_reach h).perm.length_eq

/-- shuffle buffer: at every instant at most `b + 1` elements have been pulled beyond those
yielded, and at most `b` whenever no freshly pulled element is waiting to be stored (in
particular between two `next` calls of the consumer).  `hb` is not used: the bounds hold for `b = 0` too. -/
theorem C14_shuffle_buffer_readahead (b : Nat) (hb : 0 < b) (s : SB) (h : SBReach b s) :
    s.pulled.length ≤ s.out.length + b + 1 ∧ (s.pend = none → s.pulled.length ≤ s.out.length + b) := by
  have hl := sb_lengths b s h
  have hbuf := (sb_inv_reach h).bufle
  have hpl := pendL_length_le s
  refine ⟨hl ▸ Nat.add_le_add (Nat.add_le_add_left hbuf _) hpl, fun hp => ?_⟩
  rw [pendL_of_none hp] at hl
  exact hl ▸ Nat.add_le_add_left hbuf _

/-- the prefill: while filling nothing has been yielded and fewer than `b` elements have been pulled -/
theorem C14_shuffle_buffer_prefill (b : Nat) (s : SB) (h : SBReach b s) (hf : s.phase = .fill) :
    s.out = [] ∧ s.pulled.length < b := by
  have hl := sb_lengths b s h
  obtain ⟨hp, hlt, hout⟩ := (sb_inv_reach h).inPhase hf
  rw [pendL_of_none hp, hout] at hl
  exact ⟨hout, by rw [hl]; simpa using hlt⟩

/-- round robin: at most `b` inner iterators are open at any instant, and at most `b` more have
been taken from the outer stream than have been exhausted. -/
theorem C14_round_robin_readahead (b : Nat) (s : RR) (h : RRReach b s) :
    s.open_.length ≤ b ∧ s.opened ≤ s.closed + b := by
  have hi := rr_inv_reach h
  have hle := Nat.le_trans (Nat.le_add_right ..) hi.cap
  exact ⟨hle, hi.cnt ▸ Nat.add_le_add_left hle _⟩

/-- lazy pool with the code's prefill `P = 2T + 2`: inputs taken from the source never exceed
results yielded by more than `2T + 2`, in every reachable state of every schedule. -/
theorem C14_pool_inflight (c : Pool.Cfg) (g : Pool.Good c) (hP : c.P = 2 * c.T + 2) (s : Pool.St)
    (h : Pool.Reach c s) (hc : Pool.counting s.ph = true) : s.p ≤ s.out.length + 2 * c.T + 2 := by
  have := Pool.C13_inflight c g s h hc
  rwa [hP, ← Nat.add_assoc] at this

/-- unshuffled concurrent path: a batch never holds more than `file_parallelism` shards -/
theorem C14_batches_bounded (T : Nat) (ps : List α) :
    ∀ b ∈ batches T (ps.length + 1) ps, 0 < b.length ∧ b.length ≤ T := batches_sizes T _ ps

/-- Productivity (taking finitely many elements from an infinite stream terminates): the shuffle
buffer is never stuck — whatever the source answers it can proceed, and once an element has been
pulled in the main phase a yield is enabled. -/
theorem C14_shuffle_buffer_productive (b : Nat) (hb : 0 < b) (s : SB) (h : SBReach b s) :
    (s.phase = .fill → ∀ x, (SB.step s (.pull x)).isSome = true) ∧
    (s.phase = .main → s.pend = none → ∀ x, (SB.step s (.pull x)).isSome = true) ∧
    (s.phase = .main → ∀ y, s.pend = some y → ∃ x, (SB.step s (.yield x)).isSome = true) := by
  have hi := sb_inv_reach h
  -- in the main loop the buffer holds `b ≥ 1` elements
  have hne : s.phase = .main → s.buf ≠ [] := fun hm he => Nat.ne_of_gt hb (hi.main_empty hm he)
  refine ⟨?_, ?_, ?_⟩
  · intro hf x; cases x <;> simp [SB.step, hf]
  · intro hm hp x
    cases x <;> simp [SB.step, hm, hp, hne hm]
  · intro hm y hp
    obtain ⟨x, hx⟩ := List.exists_mem_of_ne_nil _ (hne hm)
    exact ⟨x, by simp [SB.step, hm, hp, hx]⟩

/-- Non-vacuity: a reachable state in which the bound `b + 1` is attained (`b = 1`). -/
example : ∃ s, SB.accepts (SB.init 1) [.pull (some 7), .pull (some 8)] = some s ∧
    s.pulled.length = s.out.length + 1 + 1 := ⟨_, rfl, rfl⟩

end Sedpack.Pipe
