import SedpackProps.C15
/-!
# C14 for the Rust reader: read-ahead of `parallel_map`

The per-worker bound `pipeLen w ≤ taken q now w + 1` (`Stage.pipeLen_le`, through `WInv.stage`), summed over the workers with
`S_taken`: the shard paths taken from the (possibly endless, `repeat=True`) input never exceed the shards consumed plus
`file_parallelism`.  The harness measures exactly this quantity on the real `parallel_map` (items pulled from an instrumented
input iterator for `k` results and by the time the iterator is dropped) and replays the recorded channel operations on M-PMAP.
-/
namespace Sedpack.PMap
/-- **Total read-ahead of the Rust reader**: at every reachable state — whatever the interleaving, also after `drop` — the
number of items taken from the input iterator is at most the number of results returned plus the number of worker threads. -/
theorem C14_rust_total_read_ahead (c : Cfg) (g : Good c) (s : St) (h : Reach c s) :
    ((List.range c.m).map s.pipeLen).sum ≤ s.out.length + c.m := by
  have hi := inv_reach g h
  have h1 : S c.m s.pipeLen ≤ S c.m (fun w => taken s.q s.now w + 1) := S_le _ _ _ fun w hw =>
    (hi.w w hw).stage.pipeLen_le
  rw [S_add, S_taken, S_const] at h1
  rw [hi.out_length]
  show S c.m s.pipeLen ≤ _
  omega

/-- Non-vacuity: two workers, three items; at the start the bound is tight. -/
example : ((List.range 2).map (init { m := 2, nq := 1, nr := 1 }).pipeLen).sum = 2 := by decide
example : ((accepts { m := 2, nq := 1, nr := 1 } (init { m := 2, nq := 1, nr := 1 }) [.wRecv 0, .wSend 0, .cNext]).map
    (fun s => (((List.range 2).map s.pipeLen).sum, s.out.length))) = some (3, 1) := by decide +kernel
end Sedpack.PMap
