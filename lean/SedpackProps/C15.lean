import SedpackProofs.ParMapTerm
/-!
# C15 — The Rust reader equals the Python reader for every thread count and timing

M-PMAP (`SedpackModel/ParMap.lean`) is the protocol of `parallel_map`: `m = min(threads, #shards)`
workers with private FIFO channels; one label per channel operation, so every relative timing of
the reader threads is a label sequence.  An item is named by its coordinates `(round, slot)` in the
input order (`k ↦ (k / m, k % m)`); `enumTo m q now` is the input order up to `(q, now)`.
Quantifiers: every `m ≥ 1`, every number of items `≥ m` (`nq ≥ 1` full rounds, `nr < m` more),
every interleaving, every drop position.  Correspondence: the order of channel operations recorded under real thread
interleavings by the `SEDPACK_VERIF` hook of `parallel_map.rs` is replayed on the model label by label (`pmaptrace`),
besides the output-level comparison with the cargo harness and with the Python reader.
-/
namespace Sedpack.PMap

/-- **Order.** After any interleaving, `next()` has returned exactly the input order so far —
result `k` is item `k`, whatever the order in which the workers finished. -/
theorem C15_output_in_input_order (c : Cfg) (g : Good c) (s : St) (h : Reach c s) : s.out = enumTo c.m s.q s.now :=
  (inv_reach g h).out

/-- every returned item is an item of the input -/
theorem C15_only_items (c : Cfg) (g : Good c) (s : St) (h : Reach c s) (hm : 0 < c.m) (a b : Nat) (hab : (a, b) ∈ s.out) : c.has a b := by
  have hi := inv_reach g h
  rw [hi.out, mem_enumTo] at hab
  -- a returned item lies before the consumer's position, and that never passes the end
  have := hi.pos g hm
  have := hi.now hm
  have := g.nr.resolve_right (Nat.ne_of_gt hm)
  unfold Cfg.has; omega

/-- at the end of a full pass the consumer stands exactly behind the last item -/
theorem ended_position (c : Cfg) (g : Good c) (s : St) (h : Reach c s) (hm : 0 < c.m) (he : s.ended = true)
    (hd : s.dropped = false) : s.q = c.nq ∧ s.now = c.nr := by
  have hi := inv_reach g h
  -- the worker whose turn it is has returned all its items
  have h1 := hi.ended he hd hm
  have := hi.pos g hm
  unfold cnt at h1; split at h1 <;> omega

/-- **Completeness.** When `next()` returns None (without an early drop) every item of the input has been returned. -/
theorem C15_complete_at_end (c : Cfg) (g : Good c) (s : St) (h : Reach c s) (hm : 0 < c.m) (he : s.ended = true)
    (hd : s.dropped = false) (a b : Nat) (hab : c.has a b) : (a, b) ∈ s.out := by
  obtain ⟨hq, hn⟩ := ended_position c g s h hm he hd
  rw [(inv_reach g h).out, hq, hn, mem_enumTo]
  exact hab.2.imp (⟨·, hab.1⟩) id

/-- **One outstanding task per worker** (the per-worker form of C14's bound for the Rust path): a worker has been
handed at most one item beyond those the consumer has already taken from it. -/
theorem C15_one_outstanding (c : Cfg) (g : Good c) (s : St) (h : Reach c s) (w : Nat) (hw : w < c.m) :
    s.pipeLen w ≤ s.posOut w + 1 := by
  have hst := ((inv_reach g h).w w hw).stage
  exact hst.posOut_eq ▸ hst.pipeLen_le

/-- **No deadlock**: while the iteration has neither ended nor been dropped, some thread can move. -/
theorem C15_deadlock_free (c : Cfg) (g : Good c) (s : St) (h : Reach c s) (he : s.ended = false) (hd : s.dropped = false) :
    ∃ l, (step c s l).isSome = true := by
  simp only [Option.isSome_iff_exists]
  by_cases hm : c.m = 0
  · exact ⟨.cNext, _, step_iff.mpr ⟨⟨he, hd⟩, .inl ⟨hm, rfl⟩⟩⟩
  -- the worker whose turn it is has a result ready, or has exited, or can send, receive or leave
  have hnow := (inv_reach g h).now (Nat.pos_of_ne_zero hm)
  have hw := (inv_reach g h).w _ hnow
  by_cases h1 : s.posOut s.now < s.posW s.now
  · exact ⟨.cNext, _, step_iff.mpr ⟨⟨he, hd⟩, .inr ⟨hm, .inl ⟨h1, rfl⟩⟩⟩⟩
  cases hex : s.exited s.now
  case true => exact ⟨.cNext, _, step_iff.mpr ⟨⟨he, hd⟩, .inr ⟨hm, .inr ⟨h1, hex, rfl⟩⟩⟩⟩
  case false =>
    rcases hw.stage.idle h1 with hb | ⟨hidle, hp | ⟨hp, hn⟩⟩
    · exact ⟨.wSend s.now, _, step_iff.mpr ⟨⟨hnow, hex, hb⟩, .inr ⟨hd, rfl⟩⟩⟩
    · exact ⟨.wRecv s.now, _, step_iff.mpr ⟨⟨hnow, hex, hidle⟩, .inl ⟨hp, rfl⟩⟩⟩
    -- nothing is left in its pipe: it has been told to finish
    · exact ⟨.wRecv s.now, _, step_iff.mpr ⟨⟨hnow, hex, hidle⟩, .inr ⟨hp, .inl ((hw.fin hd).mpr hn), rfl⟩⟩⟩

/-- **Dropping the iterator stops its threads**: once dropped, every worker thread that has not yet returned can take a
step that makes it return or makes it busy (an idle worker sees the stop / disconnection, or receives a task handed to
it before the drop); the step of a busy one is the refused send, with which it returns.  So a worker returns with at
most two steps of its own.  (`hfin` is not needed: `dropped` alone lets an idle worker with an empty pipe leave.) -/
theorem C15_drop_lets_workers_exit (c : Cfg) (s : St) (hd : s.dropped = true) (hfin : ∀ w, s.fin w = true) (w : Nat) (hw : w < c.m)
    (hex : s.exited w = false) (hwi : s.posIn w = s.posW w ∨ s.posIn w = s.posW w + 1) :
    (∃ s', step c s (.wSend w) = some s' ∧ s'.exited w = true) ∨
    (∃ s', step c s (.wRecv w) = some s' ∧ (s'.exited w = true ∨ s'.posIn w = s'.posW w + 1)) := by
  rcases hwi with hidle | hbusy
  · right
    by_cases hp : s.posIn w < s.pipeLen w
    · exact ⟨_, step_iff.mpr ⟨⟨hw, hex, hidle⟩, .inl ⟨hp, rfl⟩⟩, .inr ((upd_same ..).trans (congrArg (· + 1) hidle))⟩
    · exact ⟨_, step_iff.mpr ⟨⟨hw, hex, hidle⟩, .inr ⟨hp, .inr hd, rfl⟩⟩, .inl (upd_same ..)⟩
  · exact .inl ⟨_, step_iff.mpr ⟨⟨hw, hex, hbusy⟩, .inl ⟨hd, rfl⟩⟩, upd_same ..⟩

/-- **Every schedule is finite** (also after a drop at any point): from a reachable state, any label list the protocol
accepts has at most `bound c - prog c s` labels, where `bound c = 3·#items + m + 2` (receive, send and take per item, one
exit per worker, the end, the drop) and `prog` counts the operations already done. -/
theorem C15_terminates (c : Cfg) (g : Good c) (s s' : St) (h : Reach c s) (tr : List Lbl) (hacc : accepts c s tr = some s') :
    tr.length + prog c s ≤ bound c := by
  -- `tr.length + (bound c - prog c s') ≤ bound c - prog c s`
  have := ((replays c).measure (todo_step g) h hacc).2
  exact Nat.add_le_of_le_sub (prog_le_bound (inv_reach g h)) (Nat.le_trans (Nat.le_add_right ..) this)

example : bound { m := 2, nq := 1, nr := 1 } = 3 * 3 + 2 + 2 := by decide

/-- Non-vacuity: 2 workers, 3 items; the second worker finishes first, the order is unaffected. -/
def c23 : Cfg := { m := 2, nq := 1, nr := 1 }
example : Good c23 := ⟨fun _ => by decide, Or.inl (by decide)⟩
example : (accepts c23 (init c23) [.wRecv 1, .wSend 1, .wRecv 0, .wSend 0, .cNext, .cNext, .wRecv 0, .wSend 0, .wRecv 1, .cNext, .wRecv 0, .cNext]).map
    (fun s => (s.out, s.ended)) = some ([(0, 0), (0, 1), (1, 0)], true) := by decide +kernel

/-- **A full pass of the Rust reader returns the input, in order, nothing else** — for every thread count and every
interleaving of the worker threads. -/
theorem C15_full_pass_is_the_input (c : Cfg) (g : Good c) (s : St) (h : Reach c s) (hm : 0 < c.m) (he : s.ended = true)
    (hd : s.dropped = false) : s.out.map (idx c.m) = List.range (c.nq * c.m + c.nr) := by
  obtain ⟨hq, hn⟩ := ended_position c g s h hm he hd
  rw [C15_output_in_input_order c g s h, hq, hn, enumTo_idx]

end Sedpack.PMap
