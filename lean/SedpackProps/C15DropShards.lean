import SedpackProps.C15Drop
/-!
# C15 — an early-dropped Rust iterator has delivered a prefix of what the Python reader delivers

Shard level: item `k` of `parallel_map`'s input is shard `ps[k]`, served as its examples `ex ps[k]` in order.
At any moment of any execution — any thread count, any interleaving, before or after `drop` — the examples of the shards
returned so far are those of the first `k` shards of the list, in list order: a prefix of the list the Python readers yield
unshuffled (`C03_sync_unshuffled_eq`: `paths.flatMap ex`).
-/
namespace Sedpack.Pipe

theorem C15_early_drop_is_python_prefix (c : PMap.Cfg) (g : PMap.Good c) (s : PMap.St) (h : PMap.Reach c s) (hm : 0 < c.m)
    (ps : List Nat) (ex : Nat → List Nat) (hk : s.out.length ≤ ps.length) :
    (s.out.map (PMap.idx c.m)).flatMap (fun k => ex (ps.getD k 0)) = (ps.take s.out.length).flatMap ex := by
  rw [PMap.C15_any_prefix_is_input_prefix c g s h hm, ← map_range_getD ps 0 hk, List.flatMap_map]

/-- and that is a prefix of the unshuffled Python output -/
theorem C15_early_drop_prefix_of_full (ps : List Nat) (ex : Nat → List Nat) (k : Nat) :
    (ps.take k).flatMap ex <+: ps.flatMap ex := by
  conv => rhs; rw [← List.take_append_drop k ps, List.flatMap_append]
  exact List.prefix_append _ _

end Sedpack.Pipe
