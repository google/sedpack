import SedpackProps.C03Rust
/-!
# C15, as stated: the Rust reader equals the Python reader

Composition of M-PMAP (a full pass of `parallel_map`, `C15_full_pass_is_the_input`) with the pipeline model of the Python
interfaces (`C03.lean`).
-/
namespace Sedpack.Pipe

/-- same examples, same order, for every thread count of either and every timing of the worker threads -/
theorem C15_rust_equals_python (T : Nat) (hT : 0 < T) (paths : List Nat) (ex : Nat → List Nat) (o1 o2 o3 : List Nat)
    (h1 : RustRun 0 paths ex o1) (h2 : SyncRun 0 paths ex id o2) (h3 : ConcurrentRun 0 T paths ex id o3) : o1 = o2 ∧ o1 = o3 := by
  rw [C03_rust_unshuffled_eq _ _ _ h1, C03_sync_unshuffled_eq _ _ _ _ h2, C03_concurrent_unshuffled_eq T hT _ _ _ _ h3]
  simp

end Sedpack.Pipe
