import SedpackProofs.Reg
/-!
# C15 — several Rust-backed iterators alive in one process

"Per-iterator state kept in a keyed static map and removed on exit": as long as every new iterator is registered under a key that
is not in the map at that moment, **every history** of creations, reads and exits of any number of handles, interleaved in any order,
hands each handle a prefix of its own examples, in order — iterators cannot see each other.  The witnesses show what a key that can
coincide with a live one does (the map's size, a wrapping counter: seeds C01_l, C15_j).
-/
namespace Sedpack.Reg

/-- **Every history with fresh keys.**  Every handle, live or gone, has been handed a prefix of what it was created over; and a live
handle's registry entry holds exactly the rest. -/
theorem C15_fresh_keys_isolate_iterators (ls : List Lbl) (s : St) (hf : Fresh {} ls) (h : run {} ls = some s) :
    (∀ hd, ∃ rest, s.got hd ++ rest = s.items hd) ∧
    (∀ hd k, s.key hd = some k → ∃ rest, s.reg k = some rest ∧ s.got hd ++ rest = s.items hd) := by
  have hi := run_inv ls {} s inv_init hf h
  exact ⟨fun hd => (hi.own hd).imp fun _ ho => ho.1, fun hd k hk => (hi.own hd).imp fun _ ho => ⟨ho.2 k hk, ho.1⟩⟩

/-- non-vacuity: three handles with staggered life times and distinct keys -/
example : (run {} [.new 0 11 [1, 2, 3], .next 0, .new 1 22 [7, 8], .next 1, .next 0, .next 0, .next 0, .exit 0, .new 2 33 [1, 2, 3], .next 1, .next 2]).map
    (fun s => (s.got 0, s.got 1, s.got 2)) = some ([1, 2, 3], [7, 8], [1]) := by decide +kernel

/-- **Witness: the key is the size of the map.**  A (key 0) and B (key 1) are alive, A exits, C is created: the map holds one entry, so
C gets key 1 — B's.  B's next read silently delivers C's first example. -/
theorem C15_key_from_map_size_crosses_streams :
    (run {} [.new 0 0 [1, 2, 3], .next 0, .new 1 1 [7, 8], .next 1, .exit 0, .new 2 1 [1, 2, 3], .next 1]).map (fun s => s.got 1) = some [7, 1] := by decide +kernel

/-- … and once C exits, B's key is gone: B's next read panics ("static_index was not found") -/
theorem C15_key_from_map_size_then_panics :
    run {} [.new 0 0 [1, 2, 3], .next 0, .new 1 1 [7, 8], .next 1, .exit 0, .new 2 1 [1, 2, 3], .next 1, .exit 2, .next 1] = none := by decide +kernel

end Sedpack.Reg
