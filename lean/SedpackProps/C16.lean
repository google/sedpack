import SedpackProofs.Hash
import SedpackProps.C16Gen
/-!
# C16 — Recorded checksums are the standard digests of the exact file bytes

Quantifiers: every file content (any size), every buffer size `B ≥ 1`
(the code uses 128 KiB), every short-read behaviour `want` of the operating system, every tuple of
algorithm names (order and repetitions included), every streaming hash algorithm.
-/
namespace Sedpack.Hash

/-- The bytes fed to every hash object, concatenated, are exactly the file content. -/
theorem C16_chunks_concat (B : Nat) (hB : 1 ≤ B) (content : List Byte) (want : Nat → Nat) :
    (chunks B content want (content.length + 1) 0 0).flatten = content :=
  chunks_flatten B content want hB _ 0 0 (Nat.lt_succ_self _)

/-- Each digest returned is the standard one-shot digest of the whole content, the `i`-th result
belonging to the `i`-th configured name (so order and repetitions are preserved). -/
theorem C16_digest_is_standard {σ} (algo : String → Algo σ)
    (law : ∀ n s x y, (algo n).update ((algo n).update s x) y = (algo n).update s (x ++ y))
    (nil : ∀ n s, (algo n).update s [] = s)
    (names : List String) (B : Nat) (hB : 1 ≤ B) (content : List Byte) (want : Nat → Nat) :
    hashChecksums algo names B content want = names.map (fun n => standard (algo n) content) := by
  unfold hashChecksums standard feed
  rw [List.map_map]
  refine List.map_congr_left fun n _ => ?_
  rw [Function.comp, foldl_update (algo n) (law n) (nil n), C16_chunks_concat B hB]

/-- One digest per configured name (which one is where: `C16_digest_is_standard`). -/
theorem C16_order_preserved {σ} (algo : String → Algo σ) (names : List String) (B : Nat)
    (content : List Byte) (want : Nat → Nat) :
    (hashChecksums algo names B content want).length = names.length := by
  simp [hashChecksums]

/-- The loop never feeds an empty or over-long slice. -/
theorem C16_chunk_sizes (B : Nat) (content : List Byte) (want : Nat → Nat) :
    ∀ c ∈ chunks B content want (content.length + 1) 0 0, 0 < c.length ∧ c.length ≤ B :=
  chunks_sizes B content want _ _ _

def recAlgo : Algo (List Byte) := { init := [], update := fun s x => s ++ x, hexdigest := fun s => toString s }
-- Non-vacuity: the streaming-law hypotheses of `C16_digest_is_standard` are satisfiable; a short read splits a slice.
example : (∀ s x y, recAlgo.update (recAlgo.update s x) y = recAlgo.update s (x ++ y)) ∧
    (∀ s, recAlgo.update s [] = s) ∧
    chunks 2 [1,2,3,4,5] (fun k => if k = 1 then 1 else 9) 6 0 0 = [[1,2],[3],[4,5]] :=
  ⟨fun s x y => List.append_assoc s x y, List.append_nil, by decide +kernel⟩

/-- **Name → algorithm** (over the tables generated from `types.py` and `_get_hash_function` on every run): every
supported name is dispatched to the algorithm of that very name, names are pairwise distinct, and every explicit arm of the
dispatch is a supported name. -/
theorem C16_every_name_dispatches_to_its_own_algorithm :
    (∀ n ∈ Gen.hashNames, Gen.algorithmOf n = n) ∧ Gen.hashNames.Nodup ∧ (∀ p ∈ Gen.hashArms, p.1 ∈ Gen.hashNames) := by
  decide +kernel

end Sedpack.Hash
