import SedpackProofs.HashConc
/-!
# C16 — digests under overlapping calls

`C16_digest_is_standard` is about one call.  Here: any number of calls in flight at once, under **every** interleaving of their read
and update steps, each feed its own hash object exactly its own file — because buffer and hash state are per call.  The two
witnesses show that either sharing breaks it (what seeds C16_i, C16_k, C16_l and C05_l did); `C16Src.lean` re-checks on every run
that the current source shares neither.
-/
namespace Sedpack.HashConc

/-- nothing is lost or duplicated on the way: at every moment, for every call, fed ++ buffered ++ unread is the file -/
theorem C16_overlapping_calls_invariant (files : List (List Chunk)) (sched : List Lbl) (cs : List Call)
    (h : runP (start files) sched = some cs) : cs.map Call.content = files.map List.flatten := by
  rw [runP_content sched (start files) cs h]
  simp [start, Call.content, Function.comp]

/-- **Every interleaving.**  Whatever the schedule of the calls' steps, a call that has finished has fed its hash object exactly the
concatenation of its own file's chunks — the same bytes a one-shot digest sees. -/
theorem C16_overlapping_calls_feed_their_own_file (files : List (List Chunk)) (sched : List Lbl) (cs : List Call)
    (h : runP (start files) sched = some cs) (i : Nat) (c : Call) (hc : cs[i]? = some c) (hfin : c.finished) :
    ∃ f, files[i]? = some f ∧ c.acc = f.flatten := by
  have hi := congrArg (·[i]?) (C16_overlapping_calls_invariant files sched cs h)
  simp only [List.getElem?_map, hc, Option.map_some] at hi
  obtain ⟨f, hf, hfc⟩ := Option.map_eq_some_iff.1 hi.symm
  exact ⟨f, hf, by rw [hfc, Call.content, hfin.1, hfin.2]; simp⟩

/-- non-vacuity -/
example : (runP (start [[[1, 2], [3]], [[7], [8, 9]]]) [.read 0, .read 1, .feed 1, .feed 0, .read 1, .read 0, .feed 0, .feed 1]).map
    (fun cs => cs.map (·.acc)) = some [[1, 2, 3], [7, 8, 9]] := by decide +kernel

/-- **Witness: one shared read buffer.**  Two calls, the second reads between the first one's read and update: the first call's
hash object is fed the second file's bytes. -/
theorem C16_shared_buffer_breaks_it :
    (runB { calls := start [[[1]], [[2]]] } [.read 0, .read 1, .feed 0, .feed 1]).map (fun s => s.calls.map (·.acc)) = some [[2], [2]] := by decide +kernel

/-- **Witness: one shared hash state.**  The state ends up holding both files' bytes interleaved: neither call's digest is the digest
of its file. -/
theorem C16_shared_hash_state_breaks_it :
    (runH { calls := start [[[1], [3]], [[2]]] } [.read 0, .feed 0, .read 1, .feed 1, .read 0, .feed 0]).map (·.state) = some [1, 2, 3] := by decide +kernel

end Sedpack.HashConc
