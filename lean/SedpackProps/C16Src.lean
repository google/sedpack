import SedpackProps.SrcGen
/-!
# C16 — every requested algorithm gets a hash object of its own, in the current source

M-HASH feeds each requested name an independent state (`C16_digest_is_standard` holds for *lists* of names, repetitions
included).  That is the code's behaviour only if `_get_hash_function` constructs a fresh object on every call and keeps nothing
between calls.  Re-checked against the source text extracted on this run.
-/
namespace Sedpack.Src

/-- the event list has the form (constructor, `return`)*: every branch returns an object constructed right there -/
def freshPairs (ctors : List String) : List String → Bool
  | [] => true
  | [_] => false
  | c :: r :: rest => ctors.contains c && r == "return" && freshPairs ctors rest

theorem C16_src_fresh_object_per_call :
    freshPairs ["xxh32", "xxh64", "xxh128", "new"] getHashFunction = true := by decide +kernel
/-- `_get_hash_function` stores nothing and declares no global: no state survives a call -/
theorem C16_src_no_state_between_calls :
    (hasStore getHashFunction || getHashFunction.contains "global") = false := by decide +kernel
/-- `hash_checksums`: the objects are created before the file is opened, fed before they are asked for their digest, and the
function stores nothing either -/
theorem C16_src_create_feed_digest :
    (allBefore hashChecksums "_get_hash_function" "open" && allBefore hashChecksums "open" "update"
      && allBefore hashChecksums "update" "hexdigest" && !hasStore hashChecksums) = true := by decide +kernel

end Sedpack.Src
