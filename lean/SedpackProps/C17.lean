import SedpackProofs.Path
/-!
# C17 — Paths taken from metadata cannot escape the dataset directory

Quantifiers: **every path string** `s` (relative, absolute, with `.`, `..`, empty and repeated
separators, any depth) in any path-valued metadata field or writer sub-directory argument, every
dataset root.  `fixed` is the repaired validator configuration (absolute paths are rejected too);
`C17_absolute_counterexample` is the witness for the pinned one.  Lexical containment is physical
containment under the stated assumption that the dataset directory contains no symbolic links.
-/
namespace Sedpack.Path

def fixed : Cfg := { rejectAbsolute := true }
def pinned : Cfg := { rejectAbsolute := false }

theorem acceptsFileInfo_fixed_iff (p : P) : acceptsFileInfo fixed p = true ↔ (".." ∉ p.comps ∧ p.abs = false) := by
  simp [acceptsFileInfo, fixed]

/-- **Containment.** For every string the repaired validator accepts, joining it to any root
gives a location whose normal form starts with the root's normal form, followed by exactly the
path's own components: it lies inside the root. -/
theorem C17_validator_contains (root : P) (s : String) (h : acceptsFileInfo fixed (parse s) = true) :
    normalize (join root (parse s)) = normalize root ++ (parse s).comps ∧
    under (normalize root) (normalize (join root (parse s))) = true := by
  obtain ⟨hdd, habs⟩ := (acceptsFileInfo_fixed_iff (parse s)).mp h
  have hn : normalize (join root (parse s)) = normalize root ++ (parse s).comps := by
    rw [join, if_neg (by simp [habs]), normalize, normalize, normComps_append, normComps_no_dotdot _ _ hdd, List.reverse_reverse]
  exact ⟨hn, by rw [hn, under, List.isPrefixOf_iff_prefix]; exact List.prefix_append _ _⟩

/-- **Everything outside is rejected**: a string whose join escapes the root is not accepted. -/
theorem C17_rejects_outside (root : P) (s : String)
    (hout : under (normalize root) (normalize (join root (parse s))) = false) :
    acceptsFileInfo fixed (parse s) = false :=
  eq_false_of_ne_true fun h => absurd ((C17_validator_contains root s h).2.symm.trans hout) nofun

/-- the shard-list path validators and the writer's sub-directory guard accept only what the
file-path validator accepts (the second half by definition: in the model the sub-directory guard *is* the file-path
validator; that the code's guard makes the same two tests, `'..' in parts` and `is_absolute()`, is re-checked by C17Src) -/
theorem C17_list_and_subdir_validators (s : String) :
    (acceptsListPath fixed (parse s) = true → acceptsFileInfo fixed (parse s) = true) ∧
    (acceptsSubdir fixed (parse s) = true → acceptsFileInfo fixed (parse s) = true) :=
  ⟨fun h => ((Bool.and_eq_true _ _).mp h).2, id⟩

/-- an accepted shard-list path really names a `shards_list.json` -/
theorem C17_list_name (s : String) (h : acceptsListPath fixed (parse s) = true) : name (parse s) = "shards_list.json" :=
  beq_iff_eq.1 ((Bool.and_eq_true _ _).mp h).1

/-- every file location the reading code derives is `root / validated path` (dataset_base,
dataset_iteration, dataset_writing all use this join), hence inside the root -/
theorem C17_reads_inside (root : P) (paths : List String) (h : ∀ s ∈ paths, acceptsFileInfo fixed (parse s) = true) :
    ∀ s ∈ paths, under (normalize root) (normalize (join root (parse s))) = true :=
  fun s hs => (C17_validator_contains root s (h s hs)).2

/-- D8 — the pinned validators accept an absolute path (here the parsed form of `/etc/x`), and
joining it to the root `/data/ds` discards the root -/
theorem C17_absolute_counterexample :
    acceptsFileInfo pinned ⟨true, ["etc", "x"]⟩ = true ∧
    join ⟨true, ["data", "ds"]⟩ ⟨true, ["etc", "x"]⟩ = ⟨true, ["etc", "x"]⟩ ∧
    under (normalize ⟨true, ["data", "ds"]⟩) (normalize (join ⟨true, ["data", "ds"]⟩ ⟨true, ["etc", "x"]⟩)) = false := by
  decide +kernel

/-- Non-vacuity: an accepted relative path, a rejected `..`, a rejected absolute path (parsed
forms; the parser itself is compared with `pathlib` on generated strings by the harness) -/
example : acceptsFileInfo fixed ⟨false, ["train", "a", "x.fb"]⟩ = true ∧
    acceptsFileInfo fixed ⟨false, ["train", "..", "..", "x"]⟩ = false ∧
    acceptsFileInfo fixed ⟨true, ["etc", "passwd"]⟩ = false := by decide +kernel

end Sedpack.Path
