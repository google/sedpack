import SedpackProps.C10
/-!
# C18 — Write-time validation is all-or-nothing and never poisons a shard (filler level)

`ok = false` marks a write the shard writer's validation rejects (M-CODEC decides which values
those are, per format).  The theorems below say that such a write leaves no observable trace in
the session: the outcome of every other write, the sequence of examples stored per split and all
counts are what they would have been without it.
-/
namespace Sedpack.Fill

/-- what a reader can observe of a split after the session -/
def observe (cl : List Closed) : List Nat × Nat := ((cl.flatMap (·.exs)).map (·.1), (cl.map (·.n)).sum)

theorem observe_listed (eps : Nat) (heps : 1 ≤ eps) (ops : List Op) (sp : Nat) :
    ∃ cl, listed eps ops sp = some cl ∧ observe cl = ((accepted ops sp).map (·.1), (accepted ops sp).length) := by
  obtain ⟨cl, hl, hok, hacc, _⟩ := listed_spec eps heps ops sp
  exact ⟨cl, hl, by rw [observe, sum_n_eq_length hok, hacc]⟩

theorem accepted_rejected (ops₁ ops₂ : List Op) (s md ex sp : Nat) :
    accepted (ops₁ ++ .write s md ex false :: ops₂) sp = accepted (ops₁ ++ ops₂) sp := by
  simp [accepted]

/-- A rejected write leaves no trace: for every prefix and suffix of operations, every split has
the same stored example sequence and the same recorded total with or without it, and the outcomes
of all other writes are unchanged (C10 / C11 hold of both runs by their own theorems). -/
theorem C18_reject_no_trace (eps : Nat) (heps : 1 ≤ eps) (ops₁ ops₂ : List Op) (s md ex sp : Nat) :
    ∃ cl cl', listed eps (ops₁ ++ .write s md ex false :: ops₂) sp = some cl ∧
      listed eps (ops₁ ++ ops₂) sp = some cl' ∧ observe cl = observe cl' ∧
      (run (fixed eps) St.init (ops₁ ++ .write s md ex false :: ops₂)).2
        = ops₁.map outcome ++ .rejected :: ops₂.map outcome ∧
      (run (fixed eps) St.init (ops₁ ++ ops₂)).2 = ops₁.map outcome ++ ops₂.map outcome := by
  obtain ⟨cl, h1, h⟩ := observe_listed eps heps (ops₁ ++ .write s md ex false :: ops₂) sp
  obtain ⟨cl', h1', h'⟩ := observe_listed eps heps (ops₁ ++ ops₂) sp
  refine ⟨cl, cl', h1, h1', by rw [h, h', accepted_rejected], ?_, ?_⟩
  · rw [C10_never_close_fails eps heps]; simp [outcome]
  · rw [C10_never_close_fails eps heps]; simp

/-- The recorded total of a split is the number of accepted writes: rejected ones are not counted. -/
theorem C18_counts_exclude_rejected (eps : Nat) (heps : 1 ≤ eps) (ops : List Op) (sp : Nat) :
    ∃ cl, listed eps ops sp = some cl ∧ (cl.map (·.n)).sum = (accepted ops sp).length := by
  obtain ⟨cl, h1, h⟩ := observe_listed eps heps ops sp
  exact ⟨cl, h1, congrArg Prod.snd h⟩

/-! ## Witnesses for the pinned statement order (defect D4): metadata attached before the write -/

def pinned (eps : Nat) : Cfg := { eps := eps, attachFirst := true }

/-- D4: a rejected *first* write of a shard with metadata 1, then a write with metadata 2: the
filler tries to close a shard that holds nothing and the second (valid) write fails — and so does
every retry. -/
theorem C18_first_write_poison_pinned :
    (run (pinned 3) St.init [.write 0 1 10 false, .write 0 2 11 true, .write 0 2 11 true]).2
      = [.rejected, .closeFailed, .closeFailed] := by decide +kernel

/-- D4': with the pinned order a rejected write relabels the open shard (a visible trace). -/
theorem C18_reject_leaves_label_pinned :
    (view ((run (pinned 3) St.init [.write 0 0 10 true, .write 0 5 11 false]).1 0)) = some [(5, 1, [10])] ∧
    (view ((run (fixed 3) St.init [.write 0 0 10 true, .write 0 5 11 false]).1 0)) = some [(0, 1, [10])] := by
  decide +kernel

/-- Non-vacuity: a rejected write in the middle of a shard and one that follows a roll-over. -/
example : (listed 2 [.write 0 0 1 true, .write 0 0 2 false, .write 0 0 3 true, .write 0 0 4 false,
    .write 0 0 5 true] 0).map observe = some ([1, 3, 5], 3) := by decide +kernel

end Sedpack.Fill
