import SedpackProofs.Par
/-!
# C18 — the verdict on an example under overlapping writers

`C18_verdict_depends_on_the_example_only` is about one writer.  Here: any number of shard writers (of unrelated datasets, in
different threads) validate an example each at overlapping times; `ShardWriterBase.write` checks the fixed-size attributes one by
one and hands the example to `_write` only if none failed.  With the validation state private to the call, **every interleaving**
gives each example the verdict it gets alone (an instance of the non-interference theorem of M-PAR).  The witness shows what a
process-wide list of mismatches that every call clears on entry does (seed C18_l).
-/
namespace Sedpack.Par

/-- **Every interleaving.**  Whatever the schedule of the writers' validation steps, a writer that has reached its verdict accepted
its example iff every fixed-size attribute of *that* example has the declared shape. -/
theorem C18_overlapping_writers_verdict_is_the_examples (exs : List (List Bool)) (sched : List (Nat × VLbl)) (cs : List Val)
    (h : runPar valComp (exs.map (fun e => ({ todo := e } : Val))) sched = some cs)
    (i : Nat) (c : Val) (hc : cs[i]? = some c) (v : Bool) (hv : c.verdict = some v) :
    ∃ e, exs[i]? = some e ∧ v = e.all id := by
  have hs := runPar_solo valComp sched _ cs h i
  rw [hc, List.getElem?_map] at hs
  -- the schedule never creates components: index `i` exists at the start
  cases he : exs[i]? with
  | none => rw [he] at hs; cases hs
  | some e =>
    rw [he] at hs
    exact ⟨e, rfl, (runSolo_val_inv _ _ _ c (Val.inv_start e) (Option.some.inj hs)).verdict hv⟩

/-- non-vacuity -/
example : (runPar valComp [{ todo := [false, true] }, { todo := [true, true] }]
    [(0, .check), (1, .check), (1, .check), (1, .decide), (0, .check), (0, .decide)]).map (fun cs => cs.map (·.verdict)) = some [some false, some true] := by decide +kernel

/-- writer 0's example is wrong in its first attribute; writer 1 enters (and clears the list) while writer 0 is between its two
checks: writer 0 accepts the wrong-shaped example -/
theorem C18_shared_mismatch_list_breaks_it :
    (runS { todo := [[false, true], [true]], started := [false, false], verdict := [none, none] }
        [.enter 0, .check 0, .enter 1, .check 0, .decide 0, .check 1, .decide 1]).map (·.verdict) = some [some true, some true] := by decide +kernel

end Sedpack.Par
