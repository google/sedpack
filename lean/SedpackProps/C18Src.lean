import SedpackProps.SrcGen
import SedpackModel.Filler
/-!
# C18 — the statement order of the source, as extracted on this run

The all-or-nothing theorems of `C18.lean` are proved for the model configuration `attachFirst = false` (the write happens before
the metadata is attached and before any counter moves; `C18_first_write_poison_pinned` shows that the other order breaks the
property).  The theorems below re-check, against the source text extracted on this run (`SrcGen.lean`, regenerated by
`harness/extract_order.py`), that this *is* the order of the code.
-/
namespace Sedpack.Src

/-- `_DatasetFillerContext.write_example`: the (possibly rejected) `Shard.write` comes before the metadata is attached … -/
theorem C18_src_write_before_attach : allBefore writeExample "write" "set:custom_metadata" = true := by decide +kernel
/-- … and before the progress counter moves -/
theorem C18_src_write_before_progress_count : allBefore writeExample "write" "aug:written_examples" = true := by decide +kernel
/-- a roll-over (closing the full shard) is decided before the write, never after a rejected one (the second conjunct of
`C10_src_rollover_test`) -/
theorem C18_src_rollover_before_write : allBefore writeExample "close_shard" "write" = true := by decide +kernel
/-- `Shard.write`: the recorded `number_of_examples` moves only after the writer accepted the example -/
theorem C18_src_shard_count_after_write : allBefore shardWrite "write" "aug:number_of_examples" = true := by decide +kernel
/-- `ShardWriterBase.write`: every validation failure is raised before the format-specific `_write` touches the buffer -/
theorem C18_src_validate_before_buffer : allBefore writerBaseWrite "raise" "_write" = true := by decide +kernel

def attachFirstSrc : Bool := !(allBefore writeExample "write" "set:custom_metadata")

/-- **`attachFirstSrc = false`**, the value of `attachFirst` in `Fill.fixed`, the configuration `C18_reject_no_trace` is stated for
(the record and `eps` only carry the Boolean) -/
theorem C18_src_model_configuration (eps : Nat) :
    ({ eps := eps, attachFirst := attachFirstSrc } : Fill.Cfg).attachFirst = false := by
  simp only [attachFirstSrc, C18_src_write_before_attach, Bool.not_true]

end Sedpack.Src
