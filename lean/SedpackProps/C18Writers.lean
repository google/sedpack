import SedpackProofs.Writer
/-!
# C18 — writer level: a rejected `write` leaves nothing behind, an accepted one is decodable

M-FILL (`SedpackProps/C18.lean`) assumes that a shard writer either takes an example or rejects it
without a trace.  Here that is *derived* from the shape of the three writers (M-WRITER): for every
declaration, every sequence of examples with missing keys, wrong shapes and values the format's
encoder refuses at any attribute position, what a reader decodes from the shard is exactly the
sequence of accepted examples.
-/
namespace Sedpack.Writer

/-- npz, one call: a rejected example leaves every column as it was; an accepted one extends every column. -/
theorem C18_npz_write_atomic (k : Nat) (acc : List (List Nat)) (ex : Ex) (hk : ex.length = k) :
    ((npzWrite (colsOf k acc) ex).2 ≠ .ok → (npzWrite (colsOf k acc) ex).1 = colsOf k acc) ∧
    ((npzWrite (colsOf k acc) ex).2 = .ok → (npzWrite (colsOf k acc) ex).1 = colsOf k (acc ++ [payloads ex])) :=
  ⟨fun h => by rw [npzWrite_colsOf k acc ex hk, if_neg h, List.append_nil],
   fun h => by rw [npzWrite_colsOf k acc ex hk, if_pos h]⟩

/-- **npz.** Whatever sequence of examples is offered to a fresh shard writer (`k ≥ 1` declared attributes), the shard is
decodable and a reader gets back exactly the accepted examples, in order. -/
theorem C18_npz_decodes_accepted (attrs : Attrs) (k : Nat) (hk : 0 < k) (exs : List Ex) (hw : ∀ ex ∈ exs, ex.length = k) :
    npzDecode (runW npzWrite attrs (colsOf k []) exs).1 = some (accepted exs (runW npzWrite attrs (colsOf k []) exs).2) := by
  rw [npz_run attrs k exs [] hw, List.nil_append, npzDecode, rect_colsOf, if_pos rfl,
    rows_colsOf k _ hk (accepted_width k exs _ hw)]

/-- **FlatBuffers.** The examples recorded in the builder are exactly the accepted ones; a rejected example leaves only
unreferenced bytes (`garbage`) behind. -/
theorem C18_fb_decodes_accepted (attrs : Attrs) (exs : List Ex) (s : FbSt) :
    (runW fbWrite attrs s exs).1.examples = s.examples ++ accepted exs (runW fbWrite attrs s exs).2 :=
  runW_rel fbWrite attrs (fun t acc => t.examples = acc) exs
    (fun ex _ t acc ht => by rw [fbWrite_examples, ht]) s _ rfl

/-- **TFRecord.** The records written are exactly the accepted examples. -/
theorem C18_tfrec_decodes_accepted (attrs : Attrs) (exs : List Ex) (s : TfSt) :
    (runW tfWrite attrs s exs).1.records = s.records ++ accepted exs (runW tfWrite attrs s exs).2 :=
  runW_rel tfWrite attrs (fun t acc => t.records = acc) exs
    (fun ex _ t acc ht => by rw [tfWrite_fst]; split <;> simp [ht]) s _ rfl

/-- … and the shard file exists only if some example was accepted: no orphan file for a shard that stays empty. -/
theorem C18_tfrec_no_orphan_file (attrs : Attrs) : ∀ (exs : List Ex) (s : TfSt), (s.opened = true → s.records ≠ []) →
    ((runW tfWrite attrs s exs).1.opened = true → (runW tfWrite attrs s exs).1.records ≠ []) := fun exs s =>
  -- a plain invariant: `R` ignores the rows
  runW_rel tfWrite attrs (fun t _ => t.opened = true → t.records ≠ []) exs
    (fun ex _ t _ ht => by
      rw [tfWrite_fst]
      split
      · exact fun _ => by simp
      · exact ht) s []

/-- D5b: the pinned npz `_write` appended column by column: an example whose second key is missing extends the first
column only, and the shard can no longer be decoded. -/
theorem C18_npz_pinned_ragged :
    let r := npzWritePinned (colsOf 2 [[1, 2]]) [some ⟨true, true, 7⟩, none] 0
    r.2 = .keyError 1 ∧ r.1 = [[1, 7], [2]] ∧ npzDecode r.1 = none ∧
    (npzWrite (colsOf 2 [[1, 2]]) [some ⟨true, true, 7⟩, none]).1 = colsOf 2 [[1, 2]] := by decide +kernel

/-- D4b: the pinned TFRecord `_write` created the file before building the record: a rejected first example leaves an
empty shard file that no list names. -/
theorem C18_tfrec_pinned_orphan :
    (tfWritePinned ⟨false, []⟩ [some ⟨true, false, 7⟩]) = (⟨true, []⟩, .encError 0) ∧
    (tfWrite ⟨false, []⟩ [some ⟨true, false, 7⟩]) = (⟨false, []⟩, .encError 0) := by decide +kernel

/-- Non-vacuity: three attributes (the middle one of variable size), five offered examples — accepted, key missing,
wrong shape, encoder refusal at the last attribute, accepted. -/
example :
    let exs : List Ex := [[some ⟨true, true, 1⟩, some ⟨true, true, 2⟩, some ⟨true, true, 3⟩],
      [some ⟨true, true, 4⟩, none, some ⟨true, true, 6⟩], [some ⟨false, true, 7⟩, some ⟨true, true, 8⟩, some ⟨true, true, 9⟩],
      [some ⟨true, true, 10⟩, some ⟨true, true, 11⟩, some ⟨true, false, 12⟩], [some ⟨true, true, 13⟩, some ⟨false, true, 14⟩, some ⟨true, true, 15⟩]]
    (runW fbWrite [false, true, false] ⟨0, []⟩ exs) = (⟨3, [[1, 2, 3], [13, 14, 15]]⟩, [.ok, .keyError 1, .shapeError 0, .encError 2, .ok]) ∧
    npzDecode (runW npzWrite [false, true, false] (colsOf 3 []) exs).1 = some [[1, 2, 3], [10, 11, 12], [13, 14, 15]] := by decide +kernel

/-- **The verdict on an example depends on the example alone** — not on what the shard already holds, not on earlier rejected
calls: this is what entitles M-FILL to treat the writer as an oracle `ok : Bool` per `write_example` call (the seeded changes
C01_g / C18_e / C18_g / C18_h are exactly writers whose verdict or effect came to depend on earlier calls). -/
theorem C18_verdict_depends_on_the_example_only (attrs : Attrs) (ex : Ex) :
    (∀ s s' : NpzSt, (write npzWrite attrs s ex).2 = (write npzWrite attrs s' ex).2) ∧
    (∀ s s' : FbSt, (write fbWrite attrs s ex).2 = (write fbWrite attrs s' ex).2) ∧
    (∀ s s' : TfSt, (write tfWrite attrs s ex).2 = (write tfWrite attrs s' ex).2) :=
  ⟨write_verdict _ attrs ex fun _ _ => by unfold npzWrite; split <;> rfl,
   write_verdict _ attrs ex fun _ _ => by unfold fbWrite; split <;> rfl,
   write_verdict _ attrs ex fun _ _ => by
     unfold tfWrite
     split
     · rfl
     · split <;> rfl⟩

/-- … and a rejected call leaves what a reader will decode unchanged, in every format (the buffer of npz, the recorded
examples of FlatBuffers, the records and the existence of the TFRecord file) -/
theorem C18_rejected_call_changes_nothing_decodable (attrs : Attrs) (ex : Ex) :
    (∀ s : NpzSt, (write npzWrite attrs s ex).2 ≠ .ok → (write npzWrite attrs s ex).1 = s) ∧
    (∀ s : FbSt, (write fbWrite attrs s ex).2 ≠ .ok → (write fbWrite attrs s ex).1.examples = s.examples) ∧
    (∀ s : TfSt, (write tfWrite attrs s ex).2 ≠ .ok → (write tfWrite attrs s ex).1 = s) :=
  ⟨write_rejected npzWrite attrs id ex fun s h => by rw [npzWrite_fst, if_neg h],
   write_rejected fbWrite attrs (·.examples) ex fun s h => by rw [fbWrite_examples, if_neg h, List.append_nil],
   write_rejected tfWrite attrs id ex fun s h => by rw [tfWrite_fst, if_neg h]⟩

end Sedpack.Writer
