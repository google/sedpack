import SedpackProps.C19Gen
/-!
# C19 — `repeat` is a flag, in the current source

The theorems of `C19.lean` are about the stream an interface produces *when repetition is on*.  What "on" means in the code is
decided here, over a table generated from `dataset_iteration.py` on every run (`C19Gen.lean`): the flag is only ever
truth-tested, forwarded under its own name, or stored for a later truth test, so every truthy spelling (`True`, the default,
`numpy.True_`, `1`) takes the same branch.
-/
namespace Sedpack.Repeat
open Gen

/-- every read of the flag is a truth test, a forwarding `repeat=repeat`, or the store into `_repeat` -/
theorem C19_repeat_is_only_truth_tested :
    repeatUses.all (fun u => ["test", "forward", "store"].contains u.2) = true := by decide +kernel

/-- every function that takes the flag defaults it to on, and reads it -/
theorem C19_repeat_defaults_on :
    repeatDefaults.all (fun d => d.2 == "True" && repeatUses.any (fun u => u.1 == d.1)) = true := by decide +kernel

/-- the five public interfaces take the flag -/
theorem C19_repeat_interfaces :
    ["DatasetIteration.as_tfdataset", "DatasetIteration.as_numpy_iterator", "DatasetIteration.as_numpy_iterator_concurrent",
     "DatasetIteration.as_numpy_iterator_async", "DatasetIteration.as_numpy_iterator_rust"].all
      (fun f => repeatDefaults.any (fun d => d.1 == f)) = true := by decide +kernel

/-- the three sinks truth-test the flag, and every function that takes it tests, forwards or stores it (this half also follows
from `C19_repeat_defaults_on` and `C19_repeat_is_only_truth_tested`); where a forward leads is not in the tables -/
theorem C19_repeat_reaches_a_test :
    (["DatasetIteration.as_tfdataset", "DatasetIteration.as_numpy_common", "RustGenerator.__call__"].all
        (fun f => repeatUses.contains (f, "test"))
      && repeatDefaults.all (fun d => repeatUses.contains (d.1, "test") || repeatUses.contains (d.1, "forward")
                                      || repeatUses.contains (d.1, "store"))) = true := by decide +kernel

/-- every call of tf.data's `Dataset.repeat` is without a count — forever —, and `as_tfdataset` makes one -/
theorem C19_tf_repeat_forever :
    (repeatCallArities.all (fun c => c.2 == 0) && repeatCallArities.any (fun c => c.1 == "DatasetIteration.as_tfdataset")) = true := by
  decide +kernel

end Sedpack.Repeat
