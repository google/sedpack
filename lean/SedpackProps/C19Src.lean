import SedpackProps.SrcGen
/-!
# C19 — the path list is cycled, then shuffled, in the current source

`C19_unshuffled_stream` / `C19_cycle_periodic` model `itertools.cycle` over the path list followed by the shard-level shuffle
buffer.  Re-checked against the source text extracted on this run.
-/
namespace Sedpack.Src

/-- `as_numpy_common`: the list comes from `shard_paths_dataset`, is cycled (`itertools.cycle`, constant stack and memory per
epoch), and only then shuffled; nothing is stored on `self` -/
theorem C19_src_cycle_then_shuffle :
    (allBefore asNumpyCommon "shard_paths_dataset" "cycle" && allBefore asNumpyCommon "cycle" "shuffle_buffer"
      && occurrences asNumpyCommon "cycle" == 1 && !hasSelfStore asNumpyCommon && !asNumpyCommon.contains "yieldfrom"
      && !asNumpyCommon.contains "yield") = true := by decide +kernel

end Sedpack.Src
