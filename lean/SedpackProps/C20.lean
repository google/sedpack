import SedpackModel.Version
import SedpackProps.C17
/-!
# C20 — Reopening or relocating restores the full dataset; newer formats are refused

*Version gate*: for **all** version triples, a dataset loads iff its recorded version is not newer
than the running one.  *Defaults*: dumping a document without its default-valued fields and
loading it with the same defaults restores it, for every value of every field.  *Relocation*:
every stored path is relative; the location of a file under a root is the root followed by the
path's own components (C17), so the relative layout — all the model operations of C04/C05/C08
depend on — is the same under every root.  JSON text fidelity of pydantic-core is an external,
exercised by the harness.
-/
namespace Sedpack.Ver

/-- one component of a lexicographic comparison: the sign is decided here unless the components agree -/
theorem lex_pos_iff (x y : Nat) (t : Int) (T : Prop) (ht : 0 < t ↔ T) :
    0 < (if x < y then -1 else if x > y then 1 else t) ↔ x > y ∨ (x = y ∧ T) := by
  rcases Nat.lt_trichotomy x y with h | h | h
  · simp [h, Nat.lt_asymm h, Nat.ne_of_lt h]
  · simp [h, ht]
  · simp [h, Nat.lt_asymm h]

theorem cmp_pos_iff (a b : V) : 0 < cmp a b ↔ newer a b :=
  -- major, minor, patch from the outside in; `cmp` and `newer` unfold to these nested shapes definitionally
  lex_pos_iff _ _ _ _ (lex_pos_iff _ _ _ _ (by simpa using lex_pos_iff a.patch b.patch 0 False (by simp)))

/-- the gate refuses exactly the strictly newer versions -/
theorem C20_gate (recorded running : V) : loads recorded running = false ↔ newer recorded running := by
  simp [loads, ← cmp_pos_iff]

/-- the same version and every older version load -/
theorem C20_same_or_older_loads (recorded running : V) (h : ¬ newer recorded running) : loads recorded running = true :=
  eq_true_of_ne_false fun hl => h ((C20_gate recorded running).1 hl)

/-- numeric, not textual: `0.0.10` is newer than `0.0.7` and is refused -/
example : loads ⟨0, 0, 10⟩ ⟨0, 0, 7⟩ = false ∧ loads ⟨0, 0, 7⟩ ⟨0, 0, 7⟩ = true ∧ loads ⟨0, 0, 6⟩ ⟨0, 0, 7⟩ = true ∧
    loads ⟨0, 1, 0⟩ ⟨0, 0, 7⟩ = false ∧ loads ⟨1, 0, 0⟩ ⟨0, 9, 9⟩ = false := by decide +kernel

theorem lookup_none_of_not_mem : ∀ (doc : List (Nat × Nat)) (f : Nat), f ∉ doc.map (·.1) → lookup doc f = none := by
  intro doc f h
  induction doc with
  | nil => rfl
  | cons p ps ih =>
    rw [List.map_cons, List.mem_cons, not_or] at h
    rw [lookup, if_neg (Ne.symm h.1), ih h.2]

theorem lookup_dump (dflt : Nat → Nat) (doc : List (Nat × Nat)) (f : Nat) (hnd : (doc.map (·.1)).Nodup) :
    (lookup (dump dflt doc) f).getD (dflt f) = (lookup doc f).getD (dflt f) := by
  induction doc with
  | nil => rfl
  | cons p ps ih =>
    rw [List.map_cons, List.nodup_cons] at hnd
    rw [dump]
    split
    · rw [ih hnd.2, lookup]
      split
      · -- the omitted field: nobody else carries this name, so the default is restored
        subst f
        rw [lookup_none_of_not_mem ps _ hnd.1, ‹p.2 = _›]; rfl
      · rfl
    · rw [lookup, lookup]
      split
      · rfl
      · exact ih hnd.2

theorem lookup_map (val : Nat → Nat) (fields : List Nat) (f : Nat) (h : f ∈ fields) :
    lookup (fields.map (fun g => (g, val g))) f = some (val f) := by
  induction fields with
  | nil => cases h
  | cons a as ih =>
    rw [List.map_cons, lookup]
    split
    next e => cases e; rfl
    · exact ih ((List.mem_cons.1 h).resolve_left (Ne.symm ‹_›))

/-- **Dump without defaults, load with defaults = identity**, for every document over the schema's
fields and every assignment of values (a field is omitted iff it equals its default). -/
theorem C20_defaults_roundtrip (dflt : Nat → Nat) (fields : List Nat) (hnd : fields.Nodup) (val : Nat → Nat) :
    load dflt fields (dump dflt (fields.map (fun f => (f, val f)))) = fields.map (fun f => (f, val f)) := by
  refine List.map_congr_left fun f hf => ?_
  rw [lookup_dump dflt _ f (by simpa [Function.comp_def] using hnd), lookup_map val fields f hf]
  rfl

/-- a default-valued field really is omitted from the dump (the property is not vacuous) -/
example : dump (fun _ => 0) [(1, 5), (2, 0), (3, 7)] = [(1, 5), (3, 7)] ∧
    load (fun _ => 0) [1, 2, 3] [(1, 5), (3, 7)] = [(1, 5), (2, 0), (3, 7)] := by decide +kernel

end Sedpack.Ver

namespace Sedpack.Path

/-- **Relocation**: for each of two roots separately, what follows the root in the location of a validated
relative path is the path's own components — hence the same relative location under both. -/
theorem C20_relocation_invariant (r1 r2 : P) (s : String) (h : acceptsFileInfo fixed (parse s) = true) :
    (normalize (join r1 (parse s))).drop (normalize r1).length = (parse s).comps ∧
    (normalize (join r2 (parse s))).drop (normalize r2).length = (parse s).comps := by
  rw [(C17_validator_contains r1 s h).1, (C17_validator_contains r2 s h).1]
  simp

end Sedpack.Path
